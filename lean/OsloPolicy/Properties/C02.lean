import OsloPolicy.Proofs.ParserSound
import OsloPolicy.Proofs.EvalDen
/-
C02 — malformed rules and non-rule values never grant access.
-/
namespace OsloPolicy.C02
open OsloPolicy

/-- The parser accepts *only* sentences of the documented grammar. -/
theorem sound (toks : List Tok) (t : Tree) (h : parseToks toks = some t) :
    ∃ e : E 0, toks = e.render ∧ t = build e :=
  parseToks_sound toks t h

/-- A token sequence that is not a sentence is rejected … -/
theorem reject (toks : List Tok) (h : ¬ ∃ e : E 0, toks = e.render) : parseToks toks = none := by
  cases hp : parseToks toks with
  | none => rfl
  | some t => exact absurd (let ⟨e, he, _⟩ := parseToks_sound toks t hp; ⟨e, he⟩) h

/-- … so a non-empty string that does not tokenize to a sentence parses to `!` … -/
theorem text_fails_closed (s : Str) (hs : s ≠ []) (h : ¬ ∃ e : E 0, tokenize s = e.render) :
    parseText s = .ff :=
  parseText_of_none hs (reject _ h)

/-- … and denies for every target and credentials (whatever the leaves and references do). -/
theorem text_denies (s : Str) (hs : s ≠ []) (h : ¬ ∃ e : E 0, tokenize s = e.render)
    (leaf : Str → Str → Outcome) (ref : Str → Outcome) :
    evalTree leaf ref (parseText s) = .ret false := by
  rw [text_fails_closed s hs h]; simp [evalTree]

/-- Loading a string never fails: it yields `@` (empty), `!` (not a sentence) or the
tree of the sentence it spells. -/
theorem text_total (s : Str) :
    (s = [] ∧ parseText s = .tt) ∨
    ((¬ ∃ e : E 0, tokenize s = e.render) ∧ parseText s = .ff) ∨
    (∃ e : E 0, tokenize s = e.render ∧ parseText s = build e) := by
  by_cases hs : s = []
  · exact .inl ⟨hs, hs ▸ parseText_nil⟩
  · by_cases h : ∃ e : E 0, tokenize s = e.render
    · right; right
      obtain ⟨e, he⟩ := h
      exact ⟨e, he, parseText_of_tokenize he⟩
    · right; left; exact ⟨h, text_fails_closed s hs h⟩

/-- No sentence contains a quoted-string token: a rule with a bare quoted string denies. -/
theorem no_string_token : ∀ {n} (e : E n) (q : Str), Tok.str q ∉ e.render
  | _, .leaf _, q => by simp [E.render]
  | _, .paren e, q => by simp [E.render, no_string_token e q]
  | _, .not e, q => by simp [E.render, no_string_token e q]
  | _, .up1 e, q => by simp [E.render, no_string_token e q]
  | _, .and a b, q => by simp [E.render, no_string_token a q, no_string_token b q]
  | _, .up0 e, q => by simp [E.render, no_string_token e q]
  | _, .or a b, q => by simp [E.render, no_string_token a q, no_string_token b q]

theorem quoted_string_rejects (toks : List Tok) (q : Str) (h : Tok.str q ∈ toks) :
    parseToks toks = none :=
  reject toks (fun ⟨e, he⟩ => no_string_token e q (he ▸ h))

/-- A single check that is not of the form `kind:match` behaves as `!`. -/
theorem leaf_without_colon (s : Str) (h : splitColon s = none) (h1 : s ≠ ['@']) :
    parseCheck s = .ff := by
  unfold parseCheck; simp [h, h1]

/-- A rule value that is neither a string nor a list of strings / lists of strings denies. -/
theorem values_fail_closed (v : JVal) (hstr : ∀ s, v ≠ .str s) (h : listRuleShape v = none) :
    parseValue v = .ff := by
  cases v <;> simp_all [parseValue, parseListRule]

theorem null_denies : parseValue .null = .ff := values_fail_closed _ nofun rfl
theorem bool_denies (b) : parseValue (.bool b) = .ff := values_fail_closed _ nofun rfl
theorem number_denies (i) : parseValue (.int i) = .ff := values_fail_closed _ nofun rfl
theorem mapping_denies (kvs t) : parseValue (.obj kvs t) = .ff := values_fail_closed _ nofun rfl
theorem other_denies (t b) : parseValue (.other t b) = .ff := values_fail_closed _ nofun rfl
/-- a list holding anything but strings and lists of strings denies -/
theorem bad_member_denies (xs : List JVal) (t : Str) (x : JVal) (hx : x ∈ xs)
    (hbad : innerStrings x = none) : parseValue (.arr xs t) = .ff := by
  show parseListRule (.arr xs t) = .ff
  rw [parseListRule_arr, if_neg]
  exact fun hall => by simpa [hbad] using List.all_eq_true.1 hall x hx

/-! Non-vacuity: `role:a role:b` (adjacent checks) is not a sentence; `( role:a` is not. -/
example : parseToks [.chk (.chk ['a'] []), .chk (.chk ['b'] [])] = none := by
  have h1 : reduce [Ent.chk (Tree.chk ['a'] [])] = [Ent.chk (Tree.chk ['a'] [])] :=
    reduce_chk_quiet _ _ (by simp [Quiet])
  have h2 : reduce [Ent.chk (Tree.chk ['b'] []), Ent.chk (Tree.chk ['a'] [])]
      = [Ent.chk (Tree.chk ['b'] []), Ent.chk (Tree.chk ['a'] [])] :=
    reduce_chk_quiet _ _ (by simp [Quiet])
  simp [parseToks, run, shift, Tok.ent, h1, h2, result]

end OsloPolicy.C02
