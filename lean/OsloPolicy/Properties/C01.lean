import OsloPolicy.Proofs.ParserDen
import OsloPolicy.Proofs.EvalDen
import OsloPolicy.Proofs.LexLayout
/-
C01 — rule expressions decide exactly as the documented Boolean language says.
Property theorems only; helper lemmas live in `Proofs/`.
-/
namespace OsloPolicy.C01
open OsloPolicy

/-- Every sentence of the documented grammar is accepted, and the parser builds `build e`. -/
theorem parse_complete (e : E 0) : parseToks e.render = some (build e) :=
  parseToks_render e

/-- The tree the parser builds denotes the sentence's Boolean value with precedence
`() > not > and > or`, for every valuation of the leaves. -/
theorem parse_denotes (e : E 0) (ρ : Str → Str → Bool) :
    ∃ t, parseToks e.render = some t ∧ t.den ρ = e.den ρ :=
  ⟨build e, parseToks_render e, build_den ρ e⟩

/-- … and the evaluator (short-circuiting, exception-propagating) returns exactly that
value whenever the leaves return decisions. -/
theorem decision (e : E 0) (ρ leaf ref) (h : valOf ρ leaf ref) :
    ∃ t, parseToks e.render = some t ∧ evalTree leaf ref t = .ret (e.den ρ) :=
  ⟨build e, parseToks_render e, by rw [evalTree_den ρ leaf ref h, build_den]⟩

/-- Redundant parentheses never change a decision. -/
theorem parens (e : E 0) (ρ leaf ref) (h : valOf ρ leaf ref) :
    ∃ t t', parseToks e.render = some t ∧
      parseToks (E.up0 (.up1 (.paren e))).render = some t' ∧
      evalTree leaf ref t = evalTree leaf ref t' := by
  refine ⟨build e, build (.up0 (.up1 (.paren e))), parseToks_render e, parseToks_render _, ?_⟩
  rw [evalTree_den ρ leaf ref h, evalTree_den ρ leaf ref h, build_den, build_den]
  simp [E.den]

/-- `@`, the empty string and the empty list always allow; `!` always denies. -/
theorem constants (leaf ref) :
    evalTree leaf ref (parseText []) = .ret true ∧
    evalTree leaf ref (parseValue (.arr [] [])) = .ret true ∧
    evalTree leaf ref (parseCheck ['@']) = .ret true ∧
    evalTree leaf ref (parseCheck ['!']) = .ret false := by
  refine ⟨by simp [parseText_nil, evalTree], ?_, ?_, ?_⟩
  · simp [parseValue, parseListRule, listRuleShape, evalTree]
  · simp [parseCheck, evalTree]
  · simp [parseCheck, evalTree]

/-- what one non-empty member of the outer list contributes: the AND of its checks -/
def memberDen (ρ : Str → Str → Bool) (x : JVal) : Option Bool :=
  if !x.truthy then none else (innerStrings x).map fun ss => ss.all fun s => (parseCheck s).den ρ

theorem memberDen_eq (ρ) (x : JVal) : memberDen ρ x = (listMember x).map (Tree.den ρ) := by
  unfold memberDen listMember
  cases x.truthy <;> cases innerStrings x <;> simp [andOf_den, List.all_map]; rfl

theorem listRuleMembers_den (ρ) (xs : List JVal) :
    (listRuleMembers xs).any (Tree.den ρ) = (xs.filterMap (memberDen ρ)).any id := by
  rw [listRuleMembers_eq, funext (memberDen_eq ρ), ← List.map_filterMap, List.any_map]
  rfl

/-- **List-of-lists rules**: a well-shaped value decides as the OR, over its non-empty members,
of the AND of the member's checks (a bare string is a one-check member); the empty list
allows; a list whose members are all empty denies. -/
theorem list_rule (ρ) (xs : List JVal) (t : Str) (h : ∀ x ∈ xs, (innerStrings x).isSome) :
    (parseValue (.arr xs t)).den ρ =
      if xs.isEmpty then true else (xs.filterMap (memberDen ρ)).any id := by
  show (parseListRule (.arr xs t)).den ρ = _
  rw [parseListRule_arr, if_pos (by simpa [List.all_eq_true] using h)]
  cases xs with
  | nil => rfl
  | cons x r => simp only [List.isEmpty_cons, Bool.false_eq_true, ↓reduceIte, orOf_den, listRuleMembers_den]

/-- **Lexical invariance.** However a sentence's tokens are spelled — any whitespace runs
(Python's `str.isspace` set) around and between words, `(` glued to what follows and `)` to
what precedes or standing alone, keywords in any letter case — the text parses to the same
tree `build e`. -/
theorem lex_layout (e : E 0) (sep0 : Str) (ws : List (Word × Str)) (h0 : IsSep sep0)
    (h : LayoutOK ws) (hw : ws.flatMap (fun p => p.1.toks) = e.render) :
    parseText (spell sep0 ws) = build e :=
  parseText_of_tokenize ((tokenize_spell sep0 ws h0 h).trans hw)

/-- … and therefore decides as the documented language says, whatever the layout. -/
theorem layout_decision (e : E 0) (sep0 : Str) (ws : List (Word × Str)) (h0 : IsSep sep0)
    (h : LayoutOK ws) (hw : ws.flatMap (fun p => p.1.toks) = e.render)
    (ρ leaf ref) (hv : valOf ρ leaf ref) :
    evalTree leaf ref (parseText (spell sep0 ws)) = .ret (e.den ρ) := by
  rw [lex_layout e sep0 ws h0 h hw, evalTree_den ρ leaf ref hv, build_den]

/-- Two layouts of the same sentence never differ in a decision (case, whitespace, glue). -/
theorem layouts_agree (e : E 0) (s1 s2 : Str) (w1 w2 : List (Word × Str))
    (h1 : IsSep s1) (h2 : IsSep s2) (l1 : LayoutOK w1) (l2 : LayoutOK w2)
    (e1 : w1.flatMap (fun p => p.1.toks) = e.render) (e2 : w2.flatMap (fun p => p.1.toks) = e.render) :
    parseText (spell s1 w1) = parseText (spell s2 w2) := by
  rw [lex_layout e s1 w1 h1 l1 e1, lex_layout e s2 w2 h2 l2 e2]

/-! Non-vacuity of the layout hypotheses: `(role:a  AND\tnot role:b)` with a tab and a
double space is a layout of `( role:a and not role:b )`. -/
example : LayoutOK
    [(⟨1, .leaf "role:a".toList, 0⟩, "  ".toList), (⟨0, .kw .kAnd "AND".toList, 0⟩, "\t".toList),
     (⟨0, .kw .kNot "not".toList, 0⟩, " ".toList), (⟨0, .leaf "role:b".toList, 1⟩, [])] := by
  simp only [LayoutOK, Word.WF, Core.WF, true_and, reduceCtorEq, false_and, false_or, or_false]
  unfold CleanLeaf IsSep
  decide

/-! Non-vacuity: a sentence mixing all operators, `a or b and (c or d) and not e`. -/
example : ∃ e : E 0, e.render.length = 12 :=
  ⟨.or (.up0 (.up1 (.leaf (.chk ['a'] []))))
       (.and (.and (.up1 (.leaf (.chk ['b'] [])))
                   (.paren (.or (.up0 (.up1 (.leaf (.chk ['c'] [])))) (.up1 (.leaf (.chk ['d'] []))))))
             (.not (.leaf (.chk ['e'] [])))), by simp [E.render]⟩

end OsloPolicy.C01
