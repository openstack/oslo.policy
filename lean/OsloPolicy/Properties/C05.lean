import OsloPolicy.Model.Eval
import OsloPolicy.Model.Literal
import OsloPolicy.Proofs.StrLit
/-
C05 — attribute checks compare a literal or credential path with the target value.
`lit` (Python's `ast.literal_eval` then `str`) and `pyStr` of containers are parameters /
harness-supplied; the theorems hold for every `lit`.
-/
namespace OsloPolicy.C05
open OsloPolicy

/-- Declarative path matching: follow the dot-separated path through mappings; where the
value reached by a step is a list, any element may continue the path; at the end of the
path the string form of the value must equal `m`. -/
inductive Matches : JVal → List Str → Str → Prop
  | done (v : JVal) (m : Str) : m = v.pyStr → Matches v [] m
  | step (kvs tx key rest m v') :
      afind key kvs = some v' → (∀ xs t, v' ≠ .arr xs t) → Matches v' rest m →
      Matches (.obj kvs tx) (key :: rest) m
  | stepList (kvs tx key rest m xs t x) :
      afind key kvs = some (.arr xs t) → x ∈ xs → Matches x rest m →
      Matches (.obj kvs tx) (key :: rest) m

/-- The recursive search is exactly declarative path matching. -/
theorem find_iff : ∀ (path : List Str) (v : JVal) (m : Str),
    findInDict path v m = true ↔ Matches v path m := by
  intro path v m
  constructor
  · intro h
    fun_induction findInDict path v m with
    | case1 v m => exact .done v m (by simpa using h)
    | case2 key rest m kvs tx hk => cases h
    | case3 key rest m kvs tx xs t hk ih =>
      obtain ⟨x, hx, h⟩ := List.any_eq_true.1 h
      exact .stepList _ _ _ _ _ xs t x hk hx (ih x h)
    | case4 key rest m kvs tx v' hna hk ih => exact .step _ _ _ _ _ v' hk hna (ih h)
    | case5 key rest v m hno => cases h
  · intro h
    induction h with
    | done v m h => simp [findInDict, h]
    | step kvs tx key rest m v' hk hna _ ih =>
      rw [findInDict, hk]
      cases v' <;> first | exact ih | exact absurd rfl (hna _ _)
    | stepList kvs tx key rest m xs t x hk hx _ ih =>
      rw [findInDict, hk]
      exact List.any_eq_true.2 ⟨x, hx, ih⟩

/-- **C05.** The generic check allows iff the right side, after filling placeholders,
equals the string form of the literal on the left, or — when the left side is not a
literal — the credential attribute path on the left matches it. -/
theorem allow_iff (env : Env) (tgt : List (Str × JVal)) (creds : JVal) (k m : Str) :
    genericCheck env tgt creds k m = .ret true ↔
      ∃ x, subst tgt m = .ok x ∧
        ((∃ s, env.lit k = some s ∧ x = s) ∨ (env.lit k = none ∧ Matches creds (splitDots k) x)) := by
  unfold genericCheck
  cases hs : subst tgt m with
  | keyError => simp
  | unsupported => simp
  | ok x =>
    cases hl : env.lit k with
    | some s => simp
    | none => simp [find_iff]

/-- A missing target key denies. -/
theorem missing_key_denies (env : Env) (tgt) (creds : JVal) (k m : Str)
    (h : subst tgt m = .keyError) : genericCheck env tgt creds k m = .ret false := by
  simp [genericCheck, h]

/-- A missing credential attribute denies (first path segment absent from the credentials). -/
theorem missing_attribute_denies (env : Env) (tgt) (kvs tx) (k m x : Str)
    (hs : subst tgt m = .ok x) (hl : env.lit k = none)
    (key rest) (hp : splitDots k = key :: rest) (hmiss : afind key kvs = none) :
    genericCheck env tgt (.obj kvs tx) k m = .ret false := by
  simp [genericCheck, hs, hl, hp, findInDict, hmiss]

/-- It always returns a decision when the placeholders are well formed (never raises:
a path running into a non-container denies). -/
theorem decides (env : Env) (tgt) (creds : JVal) (k m : Str) (hwf : subst tgt m ≠ .unsupported) :
    ∃ b, genericCheck env tgt creds k m = .ret b := by
  unfold genericCheck
  cases hs : subst tgt m with
  | keyError => exact ⟨false, rfl⟩
  | unsupported => exact absurd hs hwf
  | ok x => cases env.lit k <;> simp

/-- A path that meets a value that is not a container denies. -/
theorem non_container_denies (path : List Str) (key : Str) (v : JVal) (m : Str)
    (h : ∀ kvs t, v ≠ .obj kvs t) : findInDict (key :: path) v m = false := by
  cases v <;> simp_all [findInDict]

/-- letters and the underscore lie above the digits and the minus sign -/
theorem identStart_ge (c : Char) (h : isIdentStart c = true) : 65 ≤ c.toNat :=
  of_contains_lit (p := fun c => 65 ≤ c.toNat) (by decide) h

theorem nonZeroDigit_lt (c : Char) (h : nonZeroDigits.contains c = true) : c.toNat < 65 :=
  of_contains_lit (p := fun c => c.toNat < 65) (by decide) h

/-- what the partial literal model says about a dotted path of identifiers: not a literal -/
theorem litKnown_path (k : Str) (hid : (splitDots k).all isIdent = true)
    (hc : k ≠ "True".toList ∧ k ≠ "False".toList ∧ k ≠ "None".toList) : litKnown k = some none := by
  obtain ⟨h1, h2, h3⟩ := hc
  -- the first character is a letter or underscore, so `k` is neither a number nor negative
  have hfirst : ∃ c r, k = c :: r ∧ isIdentStart c = true := by
    cases k with
    | nil => simp [splitDots, isIdent] at hid
    | cons c r =>
      refine ⟨c, r, rfl, ?_⟩
      unfold splitDots at hid
      split at hid
      · simp [isIdent] at hid
      · cases hsd : splitDots r with
        | nil => simp [hsd, isIdent] at hid; exact hid
        | cons h t => simp [hsd, isIdent] at hid; exact hid.1.1
  obtain ⟨c, r, rfl, hc⟩ := hfirst
  have hge := identStart_ge c hc
  have hnat : isPlainNat (c :: r) = false := by
    unfold isPlainNat
    split
    · next heq => cases heq
    · next heq => cases heq; exact absurd hge (by decide)
    · next heq =>
      cases heq
      cases hd : nonZeroDigits.contains c
      · rfl
      · exact absurd (nonZeroDigit_lt c hd) (by omega)
  unfold litKnown
  simp only [h1, h2, h3, or_self, ↓reduceIte, hnat, Bool.false_eq_true]
  split
  · next heq => cases heq; exact absurd hge (by decide)
  · simp [hid]

/-- **Closed form for attribute paths** (no `lit` parameter left): when the left side is a dotted
path of identifiers, the check allows iff the path matches the credentials. -/
theorem path_allow_iff (env : Env) (hsound : LitSound env) (tgt : List (Str × JVal)) (creds : JVal) (k m : Str)
    (hid : (splitDots k).all isIdent = true)
    (hc : k ≠ "True".toList ∧ k ≠ "False".toList ∧ k ≠ "None".toList) :
    genericCheck env tgt creds k m = .ret true ↔
      ∃ x, subst tgt m = .ok x ∧ Matches creds (splitDots k) x := by
  rw [allow_iff, hsound k none (litKnown_path k hid hc)]
  simp

/-- **Closed form for the constants** `True`, `False`, `None`: compare with the constant's text. -/
theorem constant_allow_iff (env : Env) (hsound : LitSound env) (tgt : List (Str × JVal)) (creds : JVal) (k m : Str)
    (hk : k = "True".toList ∨ k = "False".toList ∨ k = "None".toList) :
    genericCheck env tgt creds k m = .ret true ↔ subst tgt m = .ok k := by
  rw [allow_iff, hsound k (some k) (by unfold litKnown; rw [if_pos hk])]
  simp

/-! Non-vacuity: `a.b` against `{"a": [{"b": 7}, {"b": 8}]}` matches "8" through the list. -/
example : Matches (.obj [(['a'], .arr [.obj [(['b'], .int 7)] [], .obj [(['b'], .int 8)] []] [])] [])
    [['a'], ['b']] ['8'] :=
  .stepList _ _ _ _ _ [.obj [(['b'], .int 7)] [], .obj [(['b'], .int 8)] []] [] (.obj [(['b'], .int 8)] [])
    (by simp [afind]) (by simp)
    (.step _ _ _ _ _ (.int 8) (by simp [afind]) (by intro xs t h; cases h) (.done _ _ (by decide)))

end OsloPolicy.C05
