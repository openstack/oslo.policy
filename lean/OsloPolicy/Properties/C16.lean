import OsloPolicy.Model.External
import OsloPolicy.Proofs.LexLayout
/-
C16 — a remote http(s) check allows only on an explicit `True` from the server.
-/
namespace OsloPolicy.C16
open OsloPolicy

theorem dropWhile_split (c : Char) (l : Str) :
    ∃ i, l = List.replicate i c ++ l.dropWhile (· = c) :=
  ⟨(l.takeWhile (· = c)).length, by
    rw [← List.eq_replicate_iff.2 ⟨rfl, fun b hb => by simpa using List.all_eq_true.1 List.all_takeWhile b hb⟩,
      List.takeWhile_append_dropWhile]⟩

theorem rstrip_split (c : Char) (s : Str) : ∃ j, s = rstripChar c s ++ List.replicate j c := by
  obtain ⟨j, hj⟩ := dropWhile_split c s.reverse
  refine ⟨j, ?_⟩
  have := congrArg List.reverse hj
  rw [List.reverse_reverse, List.reverse_append, List.reverse_replicate] at this
  exact this

/-- Stripping `c` on both sides leaves `w` (a non-empty string that neither starts nor ends with
`c`) exactly for `w` wrapped in any number of `c`s. -/
theorem strip_eq_iff (c : Char) (w s : Str) (hh : w.head? ≠ some c) (hl : w.getLast? ≠ some c)
    (hne : w ≠ []) :
    rstripChar c (lstripChar c s) = w ↔ ∃ i j, s = List.replicate i c ++ w ++ List.replicate j c := by
  unfold lstripChar
  constructor
  · intro h
    obtain ⟨i, hi⟩ := dropWhile_split c s
    obtain ⟨j, hj⟩ := rstrip_split c (s.dropWhile (· = c))
    exact ⟨i, j, by rw [List.append_assoc, ← h, ← hj, ← hi]⟩
  · rintro ⟨i, j, rfl⟩
    have hh' : (w ++ List.replicate j c).head? ≠ some c := by
      cases w with
      | nil => exact absurd rfl hne
      | cons a r => exact hh
    rw [List.append_assoc, dropWhile_replicate_append i c _ hh', rstripChar_append_replicate j c _ hl]

/-- **Only an explicit `True`.** The reply allows iff its body is `True` surrounded by any
number of double quotes on either side — for every string. -/
theorem true_iff (body : Str) :
    replyAllows body = true ↔
      ∃ i j, body = List.replicate i '"' ++ "True".toList ++ List.replicate j '"' := by
  rw [replyAllows, decide_eq_true_iff]
  exact strip_eq_iff '"' _ body (by decide) (by decide) (by decide)

/-- any other body denies: in particular `true`, `TRUE`, ` True`, JSON `true`, the empty body -/
example : replyAllows "true".toList = false ∧ replyAllows "TRUE".toList = false ∧
    replyAllows " True".toList = false ∧ replyAllows "True\n".toList = false ∧
    replyAllows [] = false ∧ replyAllows "\"True\"".toList = true ∧ replyAllows "True".toList = true := by
  decide

/-- The HTTP status code plays no role. -/
theorem status_irrelevant (body : Str) (s₁ s₂ : Nat) :
    httpDecision (.reply body s₁) = httpDecision (.reply body s₂) := rfl

/-- **Faults never allow**: a timeout raises `RuntimeError`, any other transport failure
propagates, a missing/unreadable TLS file raises before anything is sent. -/
theorem faults_never_allow (tls : TlsFiles) :
    httpDecision .timeout = .raise .runtimeError ∧ httpDecision .transportError = .raise .transport ∧
    (¬ (tls.certOk && tls.keyOk && tls.caOk) = true → ∀ p, httpsDecision tls p = .raise .runtimeError) := by
  refine ⟨rfl, rfl, ?_⟩
  intro h p
  simp only [httpsDecision]
  split
  · next hc => exact absurd hc h
  · rfl

theorem allow_needs_reply (p : PostResult) (h : httpDecision p = .ret true) :
    ∃ body st, p = .reply body st ∧ replyAllows body = true := by
  cases p with
  | reply b s => exact ⟨b, s, rfl, by simpa [httpDecision] using h⟩
  | timeout => simp [httpDecision] at h
  | transportError => simp [httpDecision] at h

/-- **The request.** If something is sent, it goes to the rule's URL with placeholders filled
from the target, and carries the enforced policy name, the complete target (same keys, same
values except bare `object()`s) and the credentials, in the configured encoding. -/
theorem payload (isObj : JVal → Bool) (form : Bool) (tls : TlsFiles) (post) (tgt : List (Str × JVal))
    (creds : JVal) (cur : Option Str) (k m : Str) (url : Str) (pl : Payload) (o : Outcome)
    (h : remoteCheck isObj form tls post tgt creds cur k m = (o, some (url, pl))) :
    subst tgt (k ++ ':' :: m) = .ok url ∧ pl.rule = cur ∧ pl.credentials = creds ∧ pl.formEncoded = form ∧
    pl.target.map (·.1) = tgt.map (·.1) ∧
    (∀ p ∈ tgt, isObj p.2 = false → p ∈ pl.target) ∧ o = httpDecision (post url pl) := by
  -- whatever is sent is the constructed payload, to the substituted URL
  have sent : subst tgt (k ++ ':' :: m) = .ok url ∧ pl = constructPayload isObj form cur tgt creds ∧
      o = httpDecision (post url pl) := by
    unfold remoteCheck at h
    split at h
    · cases h
    · cases h
    · next u hs =>
      have : (httpDecision (post u (constructPayload isObj form cur tgt creds)),
          some (u, constructPayload isObj form cur tgt creds)) = (o, some (url, pl)) := by
        split at h
        · split at h
          · exact h
          · cases h
        · exact h
      cases this
      exact ⟨hs, rfl, rfl⟩
  obtain ⟨hs, rfl, ho⟩ := sent
  refine ⟨hs, rfl, rfl, rfl, ?_, ?_, ho⟩
  · simp only [constructPayload, blankObjects, List.map_map]
    exact List.map_congr_left fun p _ => by simp only [Function.comp]; split <;> rfl
  · intro p hp hno
    simp only [constructPayload, blankObjects, List.mem_map]
    exact ⟨p, hp, by simp [hno]⟩

end OsloPolicy.C16
