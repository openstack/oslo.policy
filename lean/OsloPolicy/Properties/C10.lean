import OsloPolicy.Proofs.LoaderReg
import OsloPolicy.Properties.C09
/-
C10 — a long-lived enforcer always decides as a freshly started one would.
State-machine refinement: the mtime-cached loader (`load`) refines "compute from the
current files" (`compute`, characterised by C09) along every history.
-/
namespace OsloPolicy.C10
open OsloPolicy

/-- **C10.** After any sequence of creating, rewriting, touching and deleting the policy file
and files in the policy directories (each change stamped with a fresh, larger time),
interleaved with loads (plain or forced — an `enforce` call is a load followed by a pure
lookup), the next load of the long-lived enforcer yields exactly the rule store of a newly
constructed enforcer reading the current files. -/
theorem history (enforceNew : Bool) (regs : List RuleDefault) (fs0 : FS) (clock0 : Nat)
    (hst : FS.Stamped fs0 clock0) (ops : List Op) :
    let w := ops.foldl (step enforceNew regs) ⟨fs0, Enf.init fs0.dirs.length, clock0⟩
    (load enforceNew regs w.enf w.fs false).rules = (fresh enforceNew regs w.fs).rules :=
  (foldl_stepR_fs .. ▸ Inv_history enforceNew regs fs0 clock0 hst (ops.map .fs)).load_eq_fresh

/-- The invariant carried along every history (ghost snapshot of the file system at the
last load; cached mtimes bounded by its clock; every slot unchanged since or stamped later). -/
theorem invariant_initial (enforceNew : Bool) (regs : List RuleDefault) (fs : FS) (clock : Nat)
    (hst : FS.Stamped fs clock) : Inv enforceNew regs ⟨fs, Enf.init fs.dirs.length, clock⟩ :=
  Inv_init enforceNew regs fs clock hst
theorem invariant_step (enforceNew : Bool) (regs : List RuleDefault) (w : World) (op : Op)
    (h : Inv enforceNew regs w) : Inv enforceNew regs (step enforceNew regs w op) :=
  Inv_step enforceNew regs w op h

/-- … and what it buys: one more load gives `compute` of the current files, i.e. (C09) the
last definition in layer order — so no removed override survives, no registered default is
lost, and directory overrides are re-applied whenever anything changed. -/
theorem next_load_is_compute (enforceNew : Bool) (regs : List RuleDefault) (w : World)
    (h : Inv enforceNew regs w) :
    (load enforceNew regs w.enf w.fs false).rules = compute enforceNew regs w.fs :=
  (Inv_load enforceNew regs w h false).1

theorem next_lookup_is_effective (enforceNew : Bool) (regs : List RuleDefault) (w : World)
    (h : Inv enforceNew regs w) (n : Str) :
    afind n (load enforceNew regs w.enf w.fs false).rules = effective enforceNew regs w.fs n := by
  rw [next_load_is_compute enforceNew regs w h, C09.layers]

/-- A brand-new enforcer computes `compute`. -/
theorem fresh_is_compute (enforceNew : Bool) (regs : List RuleDefault) (fs : FS) (clock : Nat)
    (hst : FS.Stamped fs clock) : (fresh enforceNew regs fs).rules = compute enforceNew regs fs :=
  (fresh_rules enforceNew regs fs hst).1

/-- If the policy file disappears, loading continues as if it were empty: the rules are those
computed from a file system without a main file. -/
theorem vanished_main (enforceNew : Bool) (regs : List RuleDefault) (w : World)
    (h : Inv enforceNew regs w) (hgone : w.fs.main = none) :
    (load enforceNew regs w.enf w.fs false).rules =
      mergeDefaults enforceNew ((dirLayers w.fs.dirs).foldl updFileRules []) regs
        ((dirLayers w.fs.dirs).foldl updStore []) := by
  rw [next_load_is_compute enforceNew regs w h, compute, filesStore, filesRules,
    C09.missing_main_skipped _ hgone]

/-- **C10 for a service that registers defaults as it goes.** Histories may also contain
`register_default` calls (a duplicate name raises and changes nothing): after any such history the
next load yields what a brand-new enforcer holding all defaults registered so far computes from the
current files — a default registered after the rules were first loaded is not lost. -/
theorem history_with_registration (enforceNew : Bool) (regs0 : List RuleDefault) (fs0 : FS) (clock0 : Nat)
    (hst : FS.Stamped fs0 clock0) (ops : List OpR) :
    let w := ops.foldl (stepR enforceNew) ⟨⟨fs0, Enf.init fs0.dirs.length, clock0⟩, regs0⟩
    (load enforceNew w.regs w.world.enf w.world.fs false).rules = (fresh enforceNew w.regs w.world.fs).rules :=
  (Inv_history enforceNew regs0 fs0 clock0 hst ops).load_eq_fresh

/-- … in particular: register some defaults, load, register the rest, load again — the result is the
effective policy for all of them (C09's layers), whatever the files are. -/
theorem late_registration (enforceNew : Bool) (r1 r2 : List RuleDefault) (fs : FS) (clock : Nat)
    (hst : FS.Stamped fs clock) :
    (load enforceNew (r1 ++ r2) (load enforceNew r1 (Enf.init fs.dirs.length) fs false) fs false).rules =
      compute enforceNew (r1 ++ r2) fs := by
  have h := Inv_register enforceNew r1 r2 _ (Inv_step enforceNew r1 _ .load (Inv_init enforceNew r1 fs clock hst))
  simpa only [step] using next_load_is_compute enforceNew (r1 ++ r2) _ h

/-! Non-vacuity: a stamped file system (one existing, empty directory; one missing), so histories exist. -/
example : FS.Stamped ⟨none, [some ⟨1, []⟩, none]⟩ 1 := by
  constructor
  · intro c t h; cases h
  · intro d hd
    simp at hd
    subst hd
    exact ⟨⟨Nat.le_refl _, Nat.le_refl _⟩, by intro e he; cases he⟩

end OsloPolicy.C10
