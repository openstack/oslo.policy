import OsloPolicy.Proofs.Enforce
/-
C08 — scope types gate a policy independently of its check string.
Unbounded in the scope-type list, the rule store, the check tree and the credentials.
-/
namespace OsloPolicy.C08
open OsloPolicy OsloPolicy.C07

/-- token scope: system if the credentials carry a (truthy) system scope — under either
spelling —, else domain if they carry a domain id, else project -/
theorem tokenScope_cases (creds : JVal) :
    tokenScope creds =
      if ((creds.get system_).map JVal.truthy).getD false then "system".toList
      else if ((creds.get domainId_).map JVal.truthy).getD false then "domain".toList
      else "project".toList := rfl

/-- **Mismatch.** Registered scope types, enforcement on, token scope not among them: the
request is denied — `False`, or `InvalidScope` under `do_raise` — whatever the check
string, a policy-file override or the roles say (the rule store's tree for the name, the
leaves and the credentials' other content are arbitrary). -/
theorem mismatch_denies (e : EnfView) (leafOf) (n : Str) (kvs tx) (r : Registered) (t : Tree)
    (ty : Str) (tys : List Str) (d c : Bool)
    (hne : e.rules.entries.isEmpty = false) (hl : e.rules.lookup n = some t)
    (hreg : findRegistered e.registered n = some r) (hst : r.scopeTypes = some (ty :: tys))
    (hon : e.enforceScopeOpt = true)
    (hmis : (ty :: tys).contains (tokenScope (mirrorSystemScope (.obj kvs tx))) = false) :
    enforce e leafOf (.name n) (.obj kvs tx) ⟨d, c⟩ =
      if d then .raise .invalidScope else .ret false := by
  have hr : scopeRejects e (.obj kvs tx) (scopeOf e (.name n)) = true := by
    simp only [scopeOf_name e n t hne hl, hreg, Option.bind_some, hst, scopeRejects, hon, hmis,
      Bool.not_false, Bool.and_self]
  rw [enforce_obj, hr]; rfl

/-- **Otherwise.** When the scope matches, enforcement is off, or no scope types are
declared, the decision is exactly that of the check. -/
theorem otherwise_check_decides (e : EnfView) (leafOf) (n : Str) (kvs tx) (t : Tree) (rs : RaiseSpec)
    (hne : e.rules.entries.isEmpty = false) (hl : e.rules.lookup n = some t)
    (hok : scopeRejects e (.obj kvs tx) (scopeOf e (.name n)) = false) :
    enforce e leafOf (.name n) (.obj kvs tx) rs =
      finish rs n (eval e.rules (leafOf (mirrorSystemScope (.obj kvs tx)) (some n)) e.fuel t) := by
  rw [enforce_obj, hok, verdict_name e leafOf _ n t hne hl]; rfl

/-- The scope types consulted are those of the *registered default*; the rule store (where a
policy-file override lives) is only asked for the check. -/
theorem scope_from_registration (e : EnfView) (rules' : Rules) (n : Str) (creds : JVal)
    (t t' : Tree)
    (hne : e.rules.entries.isEmpty = false) (hne' : rules'.entries.isEmpty = false)
    (hl : e.rules.lookup n = some t) (hl' : rules'.lookup n = some t') :
    scopeRejects e creds (scopeOf e (.name n)) =
      scopeRejects { e with rules := rules' } creds (scopeOf { e with rules := rules' } (.name n)) := by
  rw [scopeOf_name e n t hne hl, scopeOf_name { e with rules := rules' } n t' hne' hl']
  rfl

/-- Same gate for a check object carrying scope types. -/
theorem check_object_mismatch (e : EnfView) (leafOf) (t : Tree) (kvs tx)
    (ty : Str) (tys : List Str) (d c : Bool) (hon : e.enforceScopeOpt = true)
    (hmis : (ty :: tys).contains (tokenScope (mirrorSystemScope (.obj kvs tx))) = false) :
    enforce e leafOf (.check t (some (ty :: tys))) (.obj kvs tx) ⟨d, c⟩ =
      if d then .raise .invalidScope else .ret false := by
  have hr : scopeRejects e (.obj kvs tx) (scopeOf e (.check t (some (ty :: tys)))) = true := by
    simp only [scopeOf, scopeRejects, hon, hmis, Bool.not_false, Bool.and_self]
  rw [enforce_obj, hr]; rfl

/-- `system_scope` is honoured like `system`: a truthy `system_scope` makes the token system-scoped. -/
theorem system_scope_spelling (kvs tx) (v : JVal) (h : afind systemScope_ kvs = some v) (hv : v.truthy = true) :
    tokenScope (mirrorSystemScope (.obj kvs tx)) = "system".toList := by
  rw [mirrorSystemScope_obj, h]
  simp only [hv, ↓reduceIte, tokenScope, JVal.get, afind_ainsert_self, Option.map_some, Option.getD_some]

/-! Non-vacuity: project-scoped token against a system-only policy. -/
example : (["system".toList] : List Str).contains
    (tokenScope (mirrorSystemScope (.obj [("project_id".toList, .str ['x'])] []))) = false := by
  decide

/-! The row seeded change C08-A8 broke: a `system` key that is present but empty next to
`system_scope = 'all'` — the token is system-scoped (instance of `system_scope_spelling`). -/
example : tokenScope (mirrorSystemScope
    (.obj [(system_, .null), (systemScope_, .str "all".toList), ("project_id".toList, .str ['p'])] [])) =
    "system".toList := by
  decide

end OsloPolicy.C08
