import OsloPolicy.Proofs.Validate
/-
C13 — validation flags every undefined or cyclic rule reference, and only those.
`RefsUndefined` / `ReachesCycle` (Spec/RefGraph.lean) are stated on the reference graph,
independently of how the code walks trees.
-/
namespace OsloPolicy.C13
open OsloPolicy

/-- the two walkers see exactly the references of a tree, including those under `not` -/
theorem undefined_walker (rs : List (Str × Tree)) (t : Tree) :
    undefTree rs t = true ↔ RefsUndefined rs t := by
  unfold RefsUndefined
  induction t using Tree.induction with
  | tt | ff | and_nil | or_nil => simp [undefTree, undefList, refsTree, refsList]
  | chk k m => by_cases hk : k = ruleKind <;> simp [undefTree, refsTree, hk]
  | not t ih => simpa only [undefTree, refsTree] using ih
  | and_cons t ts ih ihs =>
    simp only [undefTree, refsTree] at ihs
    simp only [undefTree, undefList, refsTree, refsList, Bool.or_eq_true, List.mem_append, ih, ihs,
      or_and_right, exists_or]
  | or_cons t ts ih ihs =>
    simp only [undefTree, refsTree] at ihs
    simp only [undefTree, undefList, refsTree, refsList, Bool.or_eq_true, List.mem_append, ih, ihs,
      or_and_right, exists_or]
theorem cycle_walker (rs : List (Str × Tree)) (t : Tree) :
    cycleCheck rs t = true ↔ ReachesCycle rs t := by
  simp only [cycleCheck, cycTree_eq_any, List.any_eq_true, ReachesCycle, cycRef_exact]

/-- **Exactness.** `check_rules()` reports a problem exactly when some rule references an
undefined rule or can reach a reference cycle — wherever in the expression the reference
sits (the reference set `refsTree` includes operands of `not`); diamond-shaped sharing is
not a repeat on any single walk, hence not reported. -/
theorem exact (rs : List (Str × Tree)) :
    checkRules rs false = false ↔ ∃ p ∈ rs, RefsUndefined rs p.2 ∨ ReachesCycle rs p.2 := by
  simp only [checkRules, List.all_eq_false, Bool.not_false, Bool.true_and, Bool.not_eq_true',
    Bool.not_eq_false, Bool.or_eq_true, undefined_walker, cycle_walker]

/-- with `skip_undefined_check`, exactly the cycles -/
theorem exact_skip (rs : List (Str × Tree)) :
    checkRules rs true = false ↔ ∃ p ∈ rs, ReachesCycle rs p.2 := by
  simp only [checkRules, List.all_eq_false, Bool.not_true, Bool.false_and, Bool.false_or,
    Bool.not_eq_true', Bool.not_eq_false, cycle_walker]

theorem not_is_visited (rs : List (Str × Tree)) (m : Str) (h : afind m rs = none) :
    undefTree rs (.not (.chk ruleKind m)) = true := by
  simp [undefTree, h]

/-- When nothing is reported, no evaluation of a rule of the set exhausts `|rules|` or more
levels of reference nesting: exhausting `n` levels exhibits a reference walk through `n + 1`
defined names, which for `n ≥ |rules|` repeats one (pigeonhole) — a reportable cycle. -/
theorem terminates_of_le (rs : Rules) (leaf : Str → Str → Outcome) (hl : NoRec leaf)
    (hok : checkRules rs.entries false = true) (n : Nat) (hn : rs.entries.length ≤ n) :
    ∀ p ∈ rs.entries, eval rs leaf n p.2 ≠ .raise .recursion := by
  intro p hp h
  have bad : checkRules rs.entries false ≠ false := by simp [hok]
  have hc : Closed rs.entries := by
    intro p hp m hm
    cases h : afind m rs.entries with
    | some t => exact ⟨t, rfl⟩
    | none => exact absurd ((exact _).2 ⟨p, hp, .inl ⟨m, hm, h⟩⟩) bad
  obtain ⟨m, hm, hr⟩ := evalTree_rec leaf _ hl p.2 h
  obtain ⟨l, hlen, hw, hall⟩ := evalRef_rec_walk rs leaf hl hc _ m (hc p hp m hm) hr
  refine bad ((exact _).2 ⟨p, hp, .inr ⟨m, hm, l, hw, fun hnd => ?_⟩⟩)
  have := List.Nodup.length_le_of_subset hnd hall
  simp [hlen] at this
  omega

/-- **Termination.** When nothing is reported, evaluating any rule of the set terminates:
the evaluator never needs more than `|rules|+1` levels of reference nesting, for any
leaf behaviour and any default-rule setting. -/
theorem terminates (rs : Rules) (leaf : Str → Str → Outcome) (hl : NoRec leaf)
    (hok : checkRules rs.entries false = true) :
    ∀ p ∈ rs.entries, eval rs leaf (rs.entries.length + 1) p.2 ≠ .raise .recursion :=
  terminates_of_le rs leaf hl hok _ (Nat.le_succ _)

/-- The validator's exit status is non-zero exactly for: a missing policy file, invalid
rules (above), a file rule the service does not register, a rule forced to `!` whose
source text is not `!`. -/
theorem validator_status (fileMissing : Bool) (rs : List (Str × Tree)) (fileRules : List (Str × Bool))
    (registered : List Str) :
    validatorStatus fileMissing rs fileRules registered ≠ 0 ↔
      fileMissing = true ∨ checkRules rs false = false ∨
      (∃ p ∈ fileRules, registered.contains p.1 = false) ∨
      (∃ p ∈ fileRules, forcedToFalse rs p = true) := by
  have : validatorStatus fileMissing rs fileRules registered ≠ 0 ↔
      validatorFails fileMissing rs fileRules registered = true := by
    unfold validatorStatus; split <;> simp [*]
  simp only [this, validatorFails, Bool.or_eq_true, Bool.not_eq_true', List.any_eq_true, or_assoc]

/-! Non-vacuity: a self-reference under `not` is a reachable cycle; a diamond is not. -/
example : checkRules [(['a'], .not (.chk ruleKind ['a']))] false = false := by decide
example : checkRules [(['a'], .and [.chk ruleKind ['b'], .chk ruleKind ['c']]),
    (['b'], .chk ruleKind ['d']), (['c'], .chk ruleKind ['d']), (['d'], .tt)] false = true := by decide

end OsloPolicy.C13
