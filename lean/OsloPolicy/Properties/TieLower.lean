import OsloPolicy.Model.Lexer
import OsloPolicy.Generated.PyTables
/-
Obligation tying the model's `asciiLower` to CPython's `str.lower`, through the table of
single-code-point lower-casings extracted from the running interpreter on every run
(`Generated.pyLowerPairs`: every code point c with `len(chr(c).lower()) == 1` and
`chr(c).lower() != chr(c)`):
  * on code points below 128 the table is exactly `asciiLower` (A–Z ↦ a–z), and
  * every ASCII code point outside the table is left alone by `asciiLower`.
(That no ASCII code point lower-cases to more than one code point is part of
`pyLowerIntoKeyword`'s extraction and of the C04 correspondence.)
-/
namespace OsloPolicy.Tie
open OsloPolicy

def asciiPairs : List (Nat × Nat) := Generated.pyLowerPairs.filter (fun p => p.1 < 128)

/-- the ASCII part of the interpreter's table is exactly `A`–`Z` ↦ `a`–`z` (the one sweep over the whole table) -/
theorem asciiPairs_eq : asciiPairs = (List.range 26).map fun i => (i + 65, i + 97) := by decide +kernel

theorem lower_ascii_table :
    asciiPairs.all (fun p => (asciiLower (Char.ofNat p.1)).toNat = p.2) = true := by
  rw [asciiPairs_eq]; decide

theorem lower_ascii_fixed :
    (List.range 128).all (fun n => (asciiPairs.any (fun p => p.1 = n)) ||
      ((asciiLower (Char.ofNat n)).toNat = n)) = true := by
  rw [asciiPairs_eq]; decide +kernel

theorem lower_ascii_domain : asciiPairs.map (·.1) = (List.range 26).map (· + 65) := by
  rw [asciiPairs_eq]; decide

end OsloPolicy.Tie
