import OsloPolicy.Model.Tables
import OsloPolicy.Generated.RepoTables
/-
Obligation tying the default values of the public entry points' parameters (read from the working tree with
`inspect.signature` on every run) to what the models assume. Found necessary by the mutant sweep (DESIGN §16): a flipped
default of `fallback_to_json_file` or `do_raise` changes what `Enforcer(conf)` / `authorize(name, target, creds)` mean.
-/
namespace OsloPolicy.Tie
open OsloPolicy

theorem api_defaults_same : Generated.apiDefaults = Tables.apiDefaults := rfl

end OsloPolicy.Tie
