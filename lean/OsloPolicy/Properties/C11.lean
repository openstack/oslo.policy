import OsloPolicy.Proofs.Layers
import OsloPolicy.Proofs.EvalDen
/-
C11 — deprecated-policy merging follows the documented override table.
-/
namespace OsloPolicy.C11
open OsloPolicy

/-- **The table.** For a registered default (its name unique among the registrations), what
the loader installs under its name is `governs`: a new-name override if the files have one;
else an old-name override (renamed case) unless that is the alias `rule:<new name>`; else
the new default, OR-ed with the old default only when `enforce_new_defaults` is off and the
two check strings differ. -/
theorem table (enforceNew : Bool) (regs : List RuleDefault) (fs : FS) (d : RuleDefault)
    (hd : d ∈ regs) (huniq : ∀ d' ∈ regs, d'.name = d.name → d' = d) :
    afind d.name (compute enforceNew regs fs) = some (governs enforceNew (filesRules fs) d) := by
  rw [governs_cases, compute, afind_mergeDefaults, afind_filesStore,
    find?_name_of_unique regs d hd huniq]
  cases afind d.name (filesRules fs) <;> rfl

/-- a new-name override always governs -/
theorem new_override_governs (enforceNew : Bool) (fr : Content) (d : RuleDefault) (v : JVal)
    (h : afind d.name fr = some v) : governs enforceNew fr d = parseValue v := by
  simp [governs, h]

/-- an alias `rule:<new name>` under the old name does not govern -/
theorem alias_does_not_govern (enforceNew : Bool) (fr : Content) (d : RuleDefault) (old : Str) (oldStr v : JVal)
    (hn : afind d.name fr = none) (hdep : d.deprecated = some (old, oldStr)) (hren : old ≠ d.name)
    (hv : afind old fr = some v) (halias : (parseValue v).print = rulePrefix ++ d.name) :
    governs enforceNew fr d =
      if !enforceNew && jvalStrNe oldStr d.checkStr then .or [parseValue d.checkStr, parseValue oldStr]
      else parseValue d.checkStr := by
  simp [governs, hn, hdep, hren, hv, halias]

/-- any other override under the old, renamed name governs -/
theorem old_override_governs (enforceNew : Bool) (fr : Content) (d : RuleDefault) (old : Str) (oldStr v : JVal)
    (hn : afind d.name fr = none) (hdep : d.deprecated = some (old, oldStr)) (hren : old ≠ d.name)
    (hv : afind old fr = some v) (halias : (parseValue v).print ≠ rulePrefix ++ d.name) :
    governs enforceNew fr d = parseValue v := by
  simp [governs, hn, hdep, hren, hv, halias]

/-- with no override: the new default, OR-ed with the old one only when the flag is off and
the check strings differ; and the OR decides as "new or old" -/
theorem no_override (enforceNew : Bool) (fr : Content) (d : RuleDefault) (old : Str) (oldStr : JVal)
    (hn : afind d.name fr = none) (hdep : d.deprecated = some (old, oldStr)) (ho : afind old fr = none) :
    governs enforceNew fr d =
      if !enforceNew && jvalStrNe oldStr d.checkStr then .or [parseValue d.checkStr, parseValue oldStr]
      else parseValue d.checkStr := by
  by_cases h : old = d.name <;> simp [governs, hn, hdep, ho, h]

theorem or_decides (a b : Tree) (ρ : Str → Str → Bool) : (Tree.or [a, b]).den ρ = (a.den ρ || b.den ρ) := by
  simp [Tree.den, denAny]

/-- **Nothing else** about the deprecated rule influences the result: `governs` is a function of
the new name, the two check strings, the old name, the flag and the file rules only (a
`RuleDefault` of the model has no other attributes), and of the file rules only through the
entries under the new and the old name. -/
theorem nothing_else (enforceNew : Bool) (fr fr' : Content) (d : RuleDefault)
    (h1 : afind d.name fr = afind d.name fr')
    (h2 : ∀ old oldStr, d.deprecated = some (old, oldStr) → afind old fr = afind old fr') :
    governs enforceNew fr d = governs enforceNew fr' d := by
  unfold governs
  rw [h1]
  cases hd : d.deprecated with
  | none => rfl
  | some p => obtain ⟨old, oldStr⟩ := p; simp only []; rw [h2 old oldStr hd]

end OsloPolicy.C11
