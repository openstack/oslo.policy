import OsloPolicy.Proofs.SchedNoDirs
import OsloPolicy.Properties.C20
/-
C20, the other half of the quantifier: the deciding thread may already be *past its own load step* (which found
nothing to reload) when the files change and another thread starts reloading.  `no_dirs_one_switch_safe`
(Properties/C20Safe.lean) covers a decider that runs its WHOLE call inside the reloader's window — its own load step
repairs the torn store.  A decider that is past its load step repairs nothing, and then even a scenario without any
policy-directory content is unsafe on today's in-place rebuild: known finding F10-late-registered-no-dir.
-/
namespace OsloPolicy.C20
open OsloPolicy.Sched

/-- D runs `k` steps while nothing is stale; then the main file is edited (`mainStale := true`); R runs `j` steps; D runs
to completion.  Returns D's decision. -/
def lateEdit (sc : Scenario) (rules0 : Content) (k j : Nat) : Option Bool :=
  let (s1, d1) := solo sc k (⟨rules0, false, false⟩, {})
  let (s2, _) := solo sc j ({ s1 with mainStale := true }, {})
  (solo sc (span sc) (s2, d1)).2.out

theorem noDirs_old_denies : decideOn noDirs (compute noDirs noDirsMainOld []) = false := by decide
theorem noDirs_new_denies : decideOn noDirs (compute noDirs noDirs.mainNew []) = false := by decide

/-- **Negation of C20 for a decider past its load step, without any directory content**: D has finished its load step
(5 steps: nothing to reload, both registered defaults found present; its next step is the lookup), the main file is edited, R refreshes the cache
entry and overwrites the store with the main file's rules (2 steps), D decides: it *allows* through the permissive
default rule, although the complete old and the complete new policy both deny. -/
theorem late_edit_violates :
    ∃ d, lateEdit noDirs (compute noDirs noDirsMainOld []) 5 2 = some d ∧ ¬ OldOrNew noDirs noDirsMainOld [] d := by
  refine ⟨true, by decide, ?_⟩
  unfold OldOrNew
  have h : noDirs.dirsNew = [] := rfl
  rw [h, noDirs_old_denies, noDirs_new_denies]
  decide

/-- … while the same decider, had it not yet started its load step (k = 0), is safe at that very point of the reload:
it is `no_dirs_one_switch_safe` seen from the decider's side. -/
example : lateEdit noDirs (compute noDirs noDirsMainOld []) 0 2 = some false := by decide

end OsloPolicy.C20
