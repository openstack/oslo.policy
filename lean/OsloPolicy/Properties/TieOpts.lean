import OsloPolicy.Model.Tables
import OsloPolicy.Model.Loader
import OsloPolicy.Generated.RepoTables
/-
Obligations tying the option defaults assumed by the models (enforce_scope,
enforce_new_defaults, policy_file, policy_default_rule, policy_dirs, remote_content_type)
to `oslo_policy/opts.py` as it is now.
-/
namespace OsloPolicy.Tie
open OsloPolicy

theorem enforce_scope_default : Generated.optEnforceScope = Tables.optEnforceScope := rfl
theorem enforce_new_defaults_default : Generated.optEnforceNewDefaults = Tables.optEnforceNewDefaults := rfl
theorem policy_file_default : Generated.optPolicyFile = Tables.optPolicyFile := rfl
theorem policy_default_rule_default : Generated.optPolicyDefaultRule = Tables.optPolicyDefaultRule := rfl
theorem policy_dirs_default : Generated.optPolicyDirs = Tables.optPolicyDirs := rfl
theorem remote_content_type_default : Generated.optRemoteContentType = Tables.optRemoteContentType := rfl
/-- the model's fallback logic is keyed on the same default file name -/
theorem policy_yaml_is_default : policyYaml = Tables.optPolicyFile.toList := rfl

end OsloPolicy.Tie
