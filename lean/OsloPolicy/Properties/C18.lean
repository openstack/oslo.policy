import OsloPolicy.Proofs.Tools
/-
C18 — policy-file rewriting tools and advice preserve every decision.
Stated on the mapping (name ↦ rule value) each tool's output denotes, through `governs`
(C11: what decides a registered policy given the rules found in files).  The quantifier's
exclusions appear as explicit hypotheses.
-/
namespace OsloPolicy.C18
open OsloPolicy

/-- the exclusions of the property, for the upgrade tool: registered names are distinct (U);
the file never defines a renamed deprecated name together with one of its successors (X1);
a renamed deprecated name is not itself a registered policy (X2); no rule is the
self-reference `rule:<its own name>` under a same-name deprecation (X3, a cyclic — invalid — rule) -/
structure UpgradeInputOK (file : Content) (regs : List RuleDefault) : Prop where
  U : ∀ d₁ ∈ regs, ∀ d₂ ∈ regs, d₁.name = d₂.name → d₁ = d₂
  X1 : ∀ d ∈ regs, ∀ o os, d.deprecated = some (o, os) → o ≠ d.name → (afind o file).isSome → afind d.name file = none
  X2 : ∀ d ∈ regs, ∀ o os, d.deprecated = some (o, os) → o ≠ d.name → ∀ d' ∈ regs, d'.name ≠ o
  X3 : NoSelfAlias file regs

/-- **oslopolicy-policy-upgrade.** Under the upgraded file every registered policy is governed
by exactly what governed it under the original file (hence, by `C11.table`, decided as before) — for
either setting of `enforce_new_defaults` — including a deprecated name split into several new policies.

(X3) cannot be dropped.  With `regs = [⟨"a", "role:x", some ("a", "role:y")⟩]`, `file = [("a", "rule:a")]` the
tool deletes the rule, and `governs false file d = rule:a` while
`governs false (toolUpgrade file regs) d = (role:x or role:y)` (kernel-checked: `upgrade_needs_noSelfAlias`). -/
theorem upgrade_preserves (enforceNew : Bool) (file : Content) (regs : List RuleDefault)
    (h : UpgradeInputOK file regs) (d : RuleDefault) (hd : d ∈ regs) :
    governs enforceNew (toolUpgrade file regs) d = governs enforceNew file d := by
  unfold governs
  rw [upgrade_new_name file regs h.U h.X2 d hd]
  unfold stepWrites
  cases hdep : d.deprecated with
  | none => rfl
  | some p =>
    obtain ⟨o, os⟩ := p
    simp only
    by_cases ho : o = d.name
    · subst ho
      cases hf : afind d.name file with
      | none => simp
      | some v => simp [h.X3 d hd os v hdep hf]
    · rw [upgrade_old_name (h.X2 d hd o os hdep ho) hd hdep]
      cases hf : afind o file with
      | none => simp [ho]
      | some v =>
        have hnone := h.X1 d hd o os hdep ho (by simp [hf])
        by_cases hp : (parseValue v).print = rulePrefix ++ d.name <;> simp [isAliasTo, hp, ho, hnone]

/-- names that are neither registered nor deprecated keep their rule -/
theorem upgrade_keeps_other_names (file : Content) (regs : List RuleDefault) (n : Str)
    (h1 : ∀ d ∈ regs, d.name ≠ n) (h2 : ∀ d ∈ regs, ∀ o os, d.deprecated = some (o, os) → o ≠ n) :
    afind n (toolUpgrade file regs) = afind n file :=
  afind_toolUpgrade_const (fun d hd => .inl (stepWrites_eq_none (h1 d hd) (h2 d hd))) (.inr rfl)

/-- the renamed deprecated names are gone afterwards -/
theorem upgrade_removes_old_names (file : Content) (regs : List RuleDefault) (h : UpgradeInputOK file regs)
    (d : RuleDefault) (hd : d ∈ regs) (o : Str) (os : JVal) (hdep : d.deprecated = some (o, os)) (hne : o ≠ d.name) :
    afind o (toolUpgrade file regs) = none :=
  upgrade_old_name (h.X2 d hd o os hdep hne) hd hdep

/-- the tool completes for every file; in the split case every successor takes over the value -/
theorem upgrade_completes (file : Content) (regs : List RuleDefault) : ∃ out, toolUpgrade file regs = out :=
  ⟨_, rfl⟩

/-- **oslopolicy-convert-json-to-yaml.** The converted file keeps every rule except those equal
to the registered default (which it comments out) …

Unique keys (a parsed JSON/YAML mapping) are needed only for the `equalsDefault … = true` case: with
`file = [("a", "role:x"), ("a", "role:z")]` and the default `a ↦ role:x`, filtering removes the first binding and
uncovers the second (kernel-checked: `convert_needs_nodup`).  The two cases that hold for every list are
`convert_lookup_kept` and `convert_lookup_absent`. -/
theorem convert_keeps_or_comments (file : Content) (regs : List RuleDefault) (n : Str)
    (hnd : (file.map (·.1)).Nodup) :
    afind n (toolConvert file regs) =
      match afind n file with
      | some v => if equalsDefault regs n v then none else some v
      | none => none := by
  cases h : afind n file with
  | none => exact afind_filter_of_none h
  | some v =>
    simp only
    cases he : equalsDefault regs n v with
    | true => exact afind_filter_of_neg hnd h (congrArg (!·) he)
    | false => exact afind_filter_of_pos h (congrArg (!·) he)

/-- … and a rule equal to its registered default *is* the default's check tree, so dropping it
(converter: commented out; list-redundant: deleted by the operator) changes no decision. -/
theorem equal_to_default_is_default (regs : List RuleDefault) (n : Str) (v : JVal) (d : RuleDefault)
    (hf : regs.find? (·.name = n) = some d) (h : equalsDefault regs n v = true)
    (hv : WFT (parseValue v)) (hd : WFT (parseValue d.checkStr)) :
    parseValue v = parseValue d.checkStr :=
  equalsDefault_same_tree regs n v d hf h hv hd

/-- **oslopolicy-list-redundant** reports exactly the file rules equal to their registered default. -/
theorem redundant_reports (fr : Content) (regs : List RuleDefault) (n : Str) :
    n ∈ toolRedundant fr regs ↔ ∃ v, (n, v) ∈ fr ∧ equalsDefault regs n v = true := by
  simp [toolRedundant]

/-- **oslopolicy-policy-generator.** The generated file defines every name the operator's files
define, with the same value, and every other registered policy with its default check string. -/
theorem generate_states_effective (fr : Content) (regs : List RuleDefault) (n : Str) :
    afind n (toolGenerate fr regs) =
      match afind n fr with
      | some v => some v
      | none => (regs.find? (·.name = n)).map (·.checkStr) := by
  rw [toolGenerate, afind_append, afind_map, List.find?_filter]
  cases hf : afind n fr with
  | some v => rfl
  | none =>
    simp only [Option.none_or]
    congr
    funext d
    by_cases h : d.name = n <;> simp [h, hf]

end OsloPolicy.C18
