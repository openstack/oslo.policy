import OsloPolicy.Properties.C04
import OsloPolicy.Properties.C05
import OsloPolicy.Proofs.Enforce
import OsloPolicy.Proofs.EvalFuel
/-
C14 — evaluating a rule never crashes; what cannot be evaluated denies.
The theorems hold for every `lit` (whatever `ast.literal_eval` does with a hostile left
side) and every `lower`.
-/
namespace OsloPolicy.C14
open OsloPolicy

/-- a decision, or fuel exhaustion (excluded for validated rule sets by C13) -/
def Benign (o : Outcome) : Prop := (∃ b, o = .ret b) ∨ o = .raise .recursion

mutual
/-- every leaf of the tree that is not a `rule:` reference returns a decision -/
def LeavesRet (leaf : Str → Str → Outcome) : Tree → Prop
  | .tt => True
  | .ff => True
  | .chk k m => k = "rule".toList ∨ ∃ b, leaf k m = .ret b
  | .not t => LeavesRet leaf t
  | .and ts => LeavesRetL leaf ts
  | .or ts => LeavesRetL leaf ts
def LeavesRetL (leaf : Str → Str → Outcome) : List Tree → Prop
  | [] => True
  | t :: ts => LeavesRet leaf t ∧ LeavesRetL leaf ts
end

theorem evalTree_benign (leaf) (r : Str → Outcome) (hr : ∀ m, Benign (r m)) :
    (t : Tree) → LeavesRet leaf t → Benign (evalTree leaf r t) := by
  intro t
  induction t using Tree.induction with
  | tt | ff | and_nil | or_nil => exact fun _ => .inl ⟨_, rfl⟩
  | chk k m =>
    intro h
    rw [evalTree]
    split
    · exact hr m
    · next hk => exact .inl (h.resolve_left hk)
  | not t ih =>
    intro h
    rcases ih h with ⟨b, hb⟩ | hb
    · exact .inl ⟨!b, evalTree_not_ret _ _ hb⟩
    · exact .inr (evalTree_not_raise _ _ hb)
  | and_cons t ts ih ihs =>
    intro h
    by_cases hv : evalTree leaf r t = .ret true
    · rw [evalTree_and_next _ _ ts hv]; exact ihs h.2
    · rw [evalTree_and_stop _ _ ts hv]; exact ih h.1
  | or_cons t ts ih ihs =>
    intro h
    by_cases hv : evalTree leaf r t = .ret false
    · rw [evalTree_or_next _ _ ts hv]; exact ihs h.2
    · rw [evalTree_or_stop _ _ ts hv]; exact ih h.1

theorem evalAll_benign (leaf) (r : Str → Outcome) (hr : ∀ m, Benign (r m)) :
    (ts : List Tree) → LeavesRetL leaf ts → Benign (evalAll leaf r ts) :=
  fun ts => by simpa only [evalTree, LeavesRet] using evalTree_benign leaf r hr (.and ts)

theorem evalAny_benign (leaf) (r : Str → Outcome) (hr : ∀ m, Benign (r m)) :
    (ts : List Tree) → LeavesRetL leaf ts → Benign (evalAny leaf r ts) :=
  fun ts => by simpa only [evalTree, LeavesRet] using evalTree_benign leaf r hr (.or ts)

/-- every tree a lookup can return has well-behaved leaves -/
def StoreRet (leaf : Str → Str → Outcome) (rs : Rules) : Prop :=
  ∀ m t, rs.lookup m = some t → LeavesRet leaf t

theorem evalRef_benign (leaf) (rs : Rules) (hs : StoreRet leaf rs) :
    ∀ (n : Nat) (m : Str), Benign (evalRef rs leaf n m) := by
  intro n
  induction n with
  | zero => intro m; exact .inr rfl
  | succ n ih =>
    intro m
    rw [evalRef_succ]
    cases hl : rs.lookup m with
    | none => exact .inl ⟨false, rfl⟩
    | some t =>
      simp only []
      rcases evalTree_benign leaf _ ih t (hs m t hl) with ⟨b, hb⟩ | hb
      · rw [hb]; exact .inl ⟨b, rfl⟩
      · rw [hb]; exact .inr rfl

theorem eval_benign (leaf) (rs : Rules) (hs : StoreRet leaf rs) (n : Nat) (t : Tree)
    (ht : LeavesRet leaf t) : Benign (eval rs leaf n t) :=
  evalTree_benign leaf _ (evalRef_benign leaf rs hs n) t ht

/-- the exceptions `enforce` documents -/
def Documented : Outcome → Prop
  | .ret _ => True
  | .raise (.notAuthorized _) => True
  | .raise .custom => True
  | .raise .invalidScope => True
  | .raise .invalidContext => True
  | .raise (.notRegistered _) => True
  | _ => False

theorem finish_documented (rs : RaiseSpec) (n : Str) (o : Outcome) (h : Benign o) :
    Documented (finish rs n o) ∨ finish rs n o = .raise .recursion := by
  rcases h with ⟨b, rfl⟩ | rfl
  · cases b
    · simp only [finish]; split
      · split <;> exact .inl trivial
      · exact .inl trivial
    · exact .inl trivial
  · exact .inr rfl

theorem gate_cases (en : Bool) (creds : JVal) (tys : List Str) (d : Bool) :
    enforceScope en creds tys d = .ret true ∨ enforceScope en creds tys d = .ret false ∨
      enforceScope en creds tys d = .raise .invalidScope := by
  rw [C07.enforceScope_eq]
  split
  · split
    · exact .inr (.inr rfl)
    · exact .inr (.inl rfl)
  · exact .inl rfl

/-- **C14.** Whatever the rule store, the queried name or check object, the target and the
credentials: if the leaves occurring in the store (and in the check object) return decisions,
`enforce` returns a decision or raises only its documented exceptions — or runs out of fuel,
which C13 excludes for rule sets that validation accepts. -/
theorem enforce_documented (e : EnfView) (leafOf) (rule : RuleArg) (creds : JVal) (rs : RaiseSpec)
    (hstore : ∀ c cur, StoreRet (leafOf c cur) e.rules)
    (hcheck : ∀ t st, rule = .check t st → ∀ c cur, LeavesRet (leafOf c cur) t) :
    Documented (enforce e leafOf rule creds rs) ∨ enforce e leafOf rule creds rs = .raise .recursion := by
  cases creds with
  | obj kvs tx =>
    rw [C07.enforce_obj]
    split
    · split <;> exact .inl trivial
    · apply finish_documented
      cases rule with
      | check t st => exact eval_benign _ _ (hstore _ _) _ t (hcheck t st rfl _ _)
      | name n =>
        rw [C07.verdict]
        split
        · exact .inl ⟨false, rfl⟩
        · split
          · exact .inl ⟨false, rfl⟩
          · next t hl => exact eval_benign _ _ (hstore _ _) _ t (hstore _ _ n t hl)
  | null | bool _ | int _ | str _ | arr _ _ | other _ _ => exact .inl trivial

/-- **Leaves.** A `role:` or generic leaf returns a decision for every `lit`, every target
and every JSON-like credentials whose roles (if any) are a list of strings, provided its
placeholders are well formed: a left side that is neither a literal nor a resolvable path,
or a path running into a non-container, *denies*. -/
theorem leaf_decides (env : Env) (tgt) (creds : JVal) (cur) (k m : Str)
    (hk : k ≠ "http".toList ∧ k ≠ "https".toList)
    (hwf : subst tgt m ≠ .unsupported)
    (hroles : creds.get rolesKey = none ∨
      ∃ rs tx, creds.get rolesKey = some (.arr rs tx) ∧ C04.RolesAreStrings rs) :
    ∃ b, leafEval env tgt creds cur k m = .ret b := by
  unfold leafEval
  split
  · rcases hroles with h | ⟨rs, tx, h, hs⟩
    · exact ⟨false, C04.no_roles_denies env tgt creds m hwf h⟩
    · exact C04.decides env tgt creds m rs tx h hs hwf
  · split
    · next h =>
      rcases h with h | h
      · exact absurd h hk.1
      · exact absurd h hk.2
    · exact C05.decides env tgt creds k m hwf

/-! Non-vacuity: a hostile left side against credentials where the path meets a string. -/
example : genericCheck ⟨id, fun _ => none, fun _ _ _ => .ret false⟩ [] (.obj [(['a'], .str ['s'])] [])
    "a.b".toList ['c'] = .ret false := by
  simp [genericCheck, subst, splitDots, findInDict, afind]

end OsloPolicy.C14
