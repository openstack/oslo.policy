import OsloPolicy.Proofs.SampleGen
import OsloPolicy.Proofs.JsonRoundTrip
/-
C17 — a generated sample policy file overrides nothing and states every default.
For every `wrap` satisfying textwrap's contract (`WrapOK`) and every `splitlines` satisfying
`SplitOK`; descriptions and reasons are arbitrary text (they only enter through those two).
The model writes a check string the way `_format_check_str` does: between double quotes as it is,
or through the JSON string encoder (modelled: `jsonEscChar`) when it holds a double quote, a
backslash or a control character.
-/
namespace OsloPolicy.C17
open OsloPolicy

/-- **Overrides nothing.** Every line of the YAML sample is empty or begins with `#`, and no
line contains a character that YAML (or `str.splitlines`) would treat as a line break. -/
theorem overrides_nothing (wrap split) (hw : WrapOK wrap) (hs : SplitOK split) (excl : Bool)
    (ds : List GenDefault) (hd : ∀ d ∈ ds, d.Printable) :
    ∀ l ∈ sampleYaml wrap split excl ds, (l = [] ∨ l.head? = some '#') ∧ NoBreak l := by
  intro l hl
  obtain ⟨d, hdm, hl⟩ := List.mem_flatMap.1 hl
  rcases formatRuleYaml_lines hw hs true _ d (hd d hdm) l hl with rfl | h
  · exact ⟨.inr rfl, by simp [isBreak, noBreak_ruleText (hd d hdm)]⟩
  · exact ⟨h.1.imp_right CommentLine.head, h.2⟩

/-- **States every default.** The lines of the form `#"…` are exactly the commented rule lines
`#"name": "check_str"` of the defaults — each default has one — so un-commenting them maps
each policy name to exactly its default check string. -/
theorem states_every_default (wrap split) (hw : WrapOK wrap) (hs : SplitOK split) (excl : Bool)
    (ds : List GenDefault) (hd : ∀ d ∈ ds, d.Printable) :
    (∀ l ∈ sampleYaml wrap split excl ds, (∃ r, l = '#' :: '"' :: r) → ∃ d ∈ ds, l = '#' :: ruleText d) ∧
    (∀ d ∈ ds, ('#' :: ruleText d) ∈ sampleYaml wrap split excl ds) := by
  constructor
  · intro l hl hq
    obtain ⟨d, hdm, hl⟩ := List.mem_flatMap.1 hl
    rcases formatRuleYaml_lines hw hs true _ d (hd d hdm) l hl with h | ⟨rfl | h, -⟩
    · exact ⟨d, hdm, h⟩
    · simp at hq
    · exact absurd hq h.not_rule
  · intro d hdm
    obtain ⟨pre, post, e, -⟩ := formatRuleYaml_shape hw hs true (!excl) d (hd d hdm)
    exact List.mem_flatMap.2 ⟨d, hdm, by simp [e]⟩

/-- Descriptions, operations, scope and deprecation notes appear only as comments: even with
rule commenting off (the converter's mode for overridden rules) the only line that is neither
empty nor a comment is the rule line itself. -/
theorem notes_only_in_comments (wrap split) (hw : WrapOK wrap) (hs : SplitOK split) (add : Bool)
    (d : GenDefault) (hd : d.Printable) :
    ∀ l ∈ formatRuleYaml wrap split false add d, l = [] ∨ CommentLine l ∨ l = ruleText d :=
  fun l hl => (formatRuleYaml_lines hw hs false add d hd l hl).elim (.inr ∘ .inr) (·.1.imp_right .inl)

theorem help_text_is_comment (wrap) (hw : WrapOK wrap) (ols : Option (List Str))
    (hls : ∀ ls, ols = some ls → ∀ l ∈ ls, NoBreak l) :
    ∀ l ∈ formatHelp wrap ols, (l = [] ∨ CommentLine l) ∧ NoBreak l :=
  formatHelp_inert hw ols hls

/-- The JSON sample's entries are exactly `"name": "check_str"` of the defaults, in order. -/
theorem json_sample (ds : List GenDefault) : sampleJsonEntries ds = ds.map ruleText := rfl

/-- **What is written for a check string reads back as that check string**, whatever it contains: `formatCheckStr`
(`_format_check_str`: plain double quoting, or `json.dumps` when there is a double quote, backslash or control
character) followed by a reader of JSON double-quoted scalars (`jsonDecode`: the escapes `\"` `\\` `\/` `\n` `\r`
`\t` `\b` `\f` `\uXXXX`, surrogate pairs) is the identity. With `states_every_default` (the rule lines are exactly
`#"name": <formatted check string>`) this is "un-commenting maps each name to exactly its default check string" at
the level of text, for the JSON sample and for a YAML reader wherever the two escape languages coincide
(everything except characters above U+FFFF, which JSON writes as a surrogate pair). -/
theorem check_string_round_trip (s : Str) : jsonDecode (formatCheckStr s) = some s := by
  unfold formatCheckStr
  split
  · rw [jsonDecode_q, decode_escape]
  · next h => rw [q, jsonDecode_q, decode_plain s (by simpa using h)]

/-- … and the formatted check string never contains a line break, even when the check string does. -/
theorem escaped_check_string_one_line (s : Str) (h : needsEscape s = true) : NoBreak (formatCheckStr s) :=
  noBreak_formatCheckStr_iff.2 (.inl h)

/-! Non-vacuity: the wrap contract is satisfiable (a wrapper that emits one `# …` line). -/
example : WrapOK (fun s => if s.all (fun c => !isBreak c) then [hashSp s] else []) := by
  intro s l hl
  dsimp only at hl
  split at hl
  · next h =>
    obtain rfl := List.mem_singleton.1 hl
    exact ⟨⟨s, rfl⟩, noBreak_hashSp.2 fun c hc => by simpa using List.all_eq_true.1 h c hc⟩
  · cases hl

end OsloPolicy.C17
