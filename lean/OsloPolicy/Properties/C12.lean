import OsloPolicy.Proofs.Loader
/-
C12 — loading is idempotent and never mutates what the service registered.
(The non-mutation half is about Python object aliasing / `copy.deepcopy`; in the model
values are immutable, and the correspondence run shares real `RuleDefault` objects among
several real enforcers while the model runs independent pure instances.)
-/
namespace OsloPolicy.C12
open OsloPolicy

/-- Loading again — plain or forced, after a plain or forced load — without a file change
in between yields the same rule store (state equality, so a merged deprecated `OrCheck`
cannot grow). -/
theorem load_twice (enforceNew : Bool) (regs : List RuleDefault) (w : World)
    (h : Inv enforceNew regs w) (f1 f2 : Bool) :
    (load enforceNew regs (load enforceNew regs w.enf w.fs f1) w.fs f2).rules =
      (load enforceNew regs w.enf w.fs f1).rules :=
  load_idem enforceNew regs w h f1 f2

/-- Any number of further loads (each plain or forced) yields the same store as one. -/
theorem load_many (enforceNew : Bool) (regs : List RuleDefault) (w : World)
    (h : Inv enforceNew regs w) (f : Bool) (fs : List Bool) :
    let w1 : World := { w with enf := load enforceNew regs w.enf w.fs f }
    (fs.foldl (fun (w' : World) f' => { w' with enf := load enforceNew regs w'.enf w'.fs f' }) w1).enf.rules
      = w1.enf.rules := by
  intro w1
  -- every state reached by further loads has the same files, the invariant, and `compute` of them
  have key := List.foldlRecOn fs
    (fun (w' : World) f' => { w' with enf := load enforceNew regs w'.enf w'.fs f' })
    (motive := fun w' => w'.fs = w.fs ∧ Inv enforceNew regs w' ∧
      w'.enf.rules = compute enforceNew regs w.fs)
    ⟨rfl, Inv_step_load _ _ w f h, (Inv_load _ _ w h f).1⟩
    fun w' hw' f' _ => by
      obtain ⟨h1, h2, _⟩ := hw'
      exact ⟨h1, Inv_step_load _ _ w' f' h2, h1 ▸ (Inv_load _ _ w' h2 f').1⟩
  exact key.2.2.trans (Inv_load _ _ w h f).1.symm

/-- Merging the registered defaults is idempotent. -/
theorem merge_idempotent (enforceNew : Bool) (fr : Content) (regs : List RuleDefault) (rules : Store) :
    mergeDefaults enforceNew fr regs (mergeDefaults enforceNew fr regs rules) =
      mergeDefaults enforceNew fr regs rules :=
  mergeDefaults_idem enforceNew fr regs rules

end OsloPolicy.C12
