import OsloPolicy.Proofs.Enforce
import OsloPolicy.Proofs.EvalFuel
/-
C03 — unknown policy names fail closed; the default rule is the only fallback.
-/
namespace OsloPolicy.C03
open OsloPolicy C07

/-- The check the default rule supplies for an undefined name, if any. -/
def usable (rs : Rules) : Option Tree :=
  match rs.default with
  | .none => none
  | .check t => some t
  | .name d => if d.isEmpty then none else afind d rs.entries

theorem lookup_undefined (rs : Rules) (n : Str) (h : afind n rs.entries = none) :
    rs.lookup n = usable rs := by
  unfold Rules.lookup usable; simp only [h]; cases rs.default <;> rfl

/-- Decision for a policy name, no scope types registered, `do_raise` off. -/
abbrev decideName (e : EnfView) (leafOf : JVal → Option Str → Str → Str → Outcome)
    (n : Str) (creds : JVal) : Outcome :=
  enforce e leafOf (.name n) creds ⟨false, false⟩

/-- For a name without registration there is no scope gate: the decision is the store's verdict. -/
theorem decideName_eq (e : EnfView) (leafOf) (n : Str) (kvs tx)
    (hreg : findRegistered e.registered n = none) :
    decideName e leafOf n (.obj kvs tx) = verdict e leafOf (mirrorSystemScope (.obj kvs tx)) (.name n) := by
  have : scopeOf e (.name n) = none := by
    simp only [scopeOf, hreg, Option.bind_none]
    split
    · rfl
    · split <;> rfl
  rw [decideName, enforce_obj, this, finish_off]; rfl

/-- A name that is defined is decided by its own definition, never by the default rule. -/
theorem defined_decides (e : EnfView) (leafOf) (n : Str) (kvs tx) (t : Tree)
    (hreg : findRegistered e.registered n = none)
    (h : afind n e.rules.entries = some t) :
    decideName e leafOf n (.obj kvs tx) =
      eval e.rules (leafOf (mirrorSystemScope (.obj kvs tx)) (some n)) e.fuel t := by
  have hne : e.rules.entries.isEmpty = false := by
    cases he : e.rules.entries with
    | nil => simp [he, afind] at h
    | cons _ _ => rfl
  rw [decideName_eq e leafOf n kvs tx hreg, verdict_name e leafOf _ n t hne (Rules.lookup_defined _ _ _ h)]

/-- An undefined name is decided by the usable default rule, and denies when there is
none or when the rule set is empty — it never raises by itself. -/
theorem undefined_decides (e : EnfView) (leafOf) (n : Str) (kvs tx)
    (hreg : findRegistered e.registered n = none)
    (h : afind n e.rules.entries = none) :
    decideName e leafOf n (.obj kvs tx) =
      if e.rules.entries.isEmpty then .ret false
      else match usable e.rules with
        | none => .ret false
        | some c => eval e.rules (leafOf (mirrorSystemScope (.obj kvs tx)) (some n)) e.fuel c := by
  rw [decideName_eq e leafOf n kvs tx hreg, verdict, lookup_undefined _ _ h]
  split
  · rfl
  · cases usable e.rules <;> rfl

/-- The statement of C03 as one equivalence. -/
theorem allow_iff (e : EnfView) (leafOf) (n : Str) (kvs tx)
    (hreg : findRegistered e.registered n = none) :
    decideName e leafOf n (.obj kvs tx) = .ret true ↔
      (∃ t, afind n e.rules.entries = some t ∧
        eval e.rules (leafOf (mirrorSystemScope (.obj kvs tx)) (some n)) e.fuel t = .ret true) ∨
      (afind n e.rules.entries = none ∧ e.rules.entries.isEmpty = false ∧
        ∃ c, usable e.rules = some c ∧
          eval e.rules (leafOf (mirrorSystemScope (.obj kvs tx)) (some n)) e.fuel c = .ret true) := by
  cases h : afind n e.rules.entries with
  | some t => simp [defined_decides e leafOf n kvs tx t hreg h]
  | none =>
    rw [undefined_decides e leafOf n kvs tx hreg h]
    cases e.rules.entries.isEmpty
    · cases usable e.rules <;> simp
    · simp

/-! Non-vacuity: the three risky rows. -/
/-- default names an undefined rule ⇒ deny -/
example (leafOf) : decideName ⟨⟨[(['a'], .tt)], .name ['d']⟩, [], true, 5⟩ leafOf ['x'] (.obj [] []) = .ret false := by
  simp [decideName, enforce, Rules.lookup, afind, finish]
/-- check-object default with an empty rule set ⇒ deny -/
example (leafOf) : decideName ⟨⟨[], .check .tt⟩, [], true, 5⟩ leafOf ['x'] (.obj [] []) = .ret false := by
  simp [decideName, enforce, finish]
/-- defined-deny beats default-allow -/
example (leafOf) : decideName ⟨⟨[(['x'], .ff), (['d'], .tt)], .name ['d']⟩, [], true, 5⟩ leafOf ['x'] (.obj [] []) = .ret false := by
  simp [decideName, enforce, Rules.lookup, afind, findRegistered, finish, eval, evalTree]

end OsloPolicy.C03
