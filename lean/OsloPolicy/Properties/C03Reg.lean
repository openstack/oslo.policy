import OsloPolicy.Proofs.Layers
/-
C03 for names defined by *registration*: after the loader's merge of registered defaults
(`mergeDefaults`, the loop over `registered_rules` in `load_rules`) every registered name is
defined in the rule store — by the file's definition where the file has one, otherwise by the
default's own check (`defaultCheck`: its check string, or C11's deprecation merge) — so by
`C03.defined_decides` it is decided by that definition and never by the default rule.
Stated after seeded change C03-A8, where a renamed registered policy took the default rule's
check as its own definition.
-/
namespace OsloPolicy.C03
open OsloPolicy

theorem registered_name_is_defined (en : Bool) (fr : Content) (regs : List RuleDefault) (s : Store)
    (d : RuleDefault) (hd : d ∈ regs) : (afind d.name (mergeDefaults en fr regs s)).isSome = true :=
  mergeDefaults_mem en fr regs s d hd

/-- A definition already in the store (from the policy file or policy.d) is never replaced by
the merge. -/
theorem file_definition_kept (en : Bool) (fr : Content) (regs : List RuleDefault) (s : Store)
    (n : Str) (t : Tree) (h : afind n s = some t) : afind n (mergeDefaults en fr regs s) = some t := by
  rw [afind_mergeDefaults, h]

/-- A registered name the files do not define gets exactly its own default check — whatever
else the store holds (in particular whatever the `default` rule is). -/
theorem registered_name_own_definition (en : Bool) (fr : Content) (regs : List RuleDefault)
    (s : Store) (d : RuleDefault) (hnd : (regs.map (·.name)).Nodup) (hd : d ∈ regs)
    (habs : afind d.name s = none) :
    afind d.name (mergeDefaults en fr regs s) = some (defaultCheck en fr d) := by
  have huniq : ∀ d' ∈ regs, d'.name = d.name → d' = d := fun d' hd' =>
    List.Pairwise.forall_of_forall_of_flip (R := fun a b : RuleDefault => a.name = b.name → a = b)
      (fun _ _ _ => rfl) ((List.pairwise_map.1 hnd).imp fun h e => absurd e h)
      ((List.pairwise_map.1 hnd).imp fun h e => absurd e.symm h) hd' hd
  rw [afind_mergeDefaults, habs, find?_name_of_unique regs d hd huniq]
  rfl

/-- The store content under any *other* name plays no part: two stores that both lack the
name give the registered policy the same definition (so defining or changing `default` cannot
change it). -/
theorem registered_name_ignores_other_rules (en : Bool) (fr : Content) (regs : List RuleDefault)
    (s1 s2 : Store) (d : RuleDefault) (hnd : (regs.map (·.name)).Nodup) (hd : d ∈ regs)
    (h1 : afind d.name s1 = none) (h2 : afind d.name s2 = none) :
    afind d.name (mergeDefaults en fr regs s1) = afind d.name (mergeDefaults en fr regs s2) := by
  rw [registered_name_own_definition en fr regs s1 d hnd hd h1,
    registered_name_own_definition en fr regs s2 d hnd hd h2]

end OsloPolicy.C03
