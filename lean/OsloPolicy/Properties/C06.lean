import OsloPolicy.Proofs.EvalFuel
import OsloPolicy.Proofs.Enforce
/-
C06 — `rule:NAME` is a transparent alias for NAME's current definition.
-/
namespace OsloPolicy.C06
open OsloPolicy

def ruleKind : Str := "rule".toList

/-- A reference evaluates as the reference evaluator says (definitional), at any depth. -/
theorem alias (rs : Rules) (leaf) (n : Nat) (m : Str) :
    eval rs leaf n (.chk ruleKind m) = evalRef rs leaf n m := by
  simp [eval, evalTree, ruleKind]

/-- … which is: look NAME up exactly as enforcing it would (default-rule fallback when it
is undefined, deny when there is no usable default) and evaluate that definition. -/
theorem alias_is_definition (rs : Rules) (leaf) (n : Nat) (m : Str) :
    eval rs leaf (n + 1) (.chk ruleKind m) =
      match rs.lookup m with
      | none => .ret false
      | some d => catchKey (eval rs leaf n d) := by
  rw [alias, evalRef_succ]; rfl

/-- For leaves that do not raise `KeyError` (every built-in leaf except a remote check with a
missing target key) the wrapper is invisible: the alias decides exactly as the definition. -/
theorem alias_transparent (rs : Rules) (leaf) (hk : NoKey leaf) (n : Nat) (m : Str) (d : Tree)
    (hd : rs.lookup m = some d) :
    eval rs leaf (n + 1) (.chk ruleKind m) = eval rs leaf n d := by
  rw [alias_is_definition, hd]
  exact catchKey_id _ (evalTree_ne_key leaf _ hk (evalRef_ne_key rs leaf n) d)

/-- A reference to an undefined name with no usable default denies. -/
theorem undefined_denies (rs : Rules) (leaf) (n : Nat) (m : Str) (h : rs.lookup m = none) :
    eval rs leaf (n + 1) (.chk ruleKind m) = .ret false := by
  rw [alias_is_definition, h]

mutual
/-- Replace every reference `rule:m` by the tree `d`. -/
def inline (m : Str) (d : Tree) : Tree → Tree
  | .tt => .tt
  | .ff => .ff
  | .chk k x => if k = ruleKind ∧ x = m then d else .chk k x
  | .not t => .not (inline m d t)
  | .and ts => .and (inlineList m d ts)
  | .or ts => .or (inlineList m d ts)
def inlineList (m : Str) (d : Tree) : List Tree → List Tree
  | [] => []
  | t :: ts => inline m d t :: inlineList m d ts
end

/-- Substitution lemma: if, under the reference evaluator `r`, the tree `d` evaluates to
what the reference `rule:m` evaluates to, inlining changes nothing. -/
theorem evalTree_inline (leaf) (r : Str → Outcome) (m : Str) (d : Tree)
    (h : evalTree leaf r d = r m) :
    (t : Tree) → evalTree leaf r (inline m d t) = evalTree leaf r t := by
  intro t
  induction t using Tree.induction with
  | tt | ff | and_nil | or_nil => rfl
  | chk k x =>
    rw [inline]
    split
    · next hc => obtain ⟨rfl, rfl⟩ := hc; simp [evalTree, ruleKind, h]
    · rfl
  | not t ih => simp only [inline, evalTree, ih]
  | and_cons t ts ih ihs =>
    simp only [inline, evalTree] at ihs
    simp only [inline, inlineList, evalTree, evalAll, ih, ihs]
  | or_cons t ts ih ihs =>
    simp only [inline, evalTree] at ihs
    simp only [inline, inlineList, evalTree, evalAny, ih, ihs]

theorem evalAll_inline (leaf) (r : Str → Outcome) (m : Str) (d : Tree)
    (h : evalTree leaf r d = r m) :
    (ts : List Tree) → evalAll leaf r (inlineList m d ts) = evalAll leaf r ts :=
  fun ts => by simpa only [inline, evalTree] using evalTree_inline leaf r m d h (.and ts)

theorem evalAny_inline (leaf) (r : Str → Outcome) (m : Str) (d : Tree)
    (h : evalTree leaf r d = r m) :
    (ts : List Tree) → evalAny leaf r (inlineList m d ts) = evalAny leaf r ts :=
  fun ts => by simpa only [inline, evalTree] using evalTree_inline leaf r m d h (.or ts)

/-- **Inlining.** Replacing references to `m` by `m`'s definition, anywhere and at any depth
in a rule body, never changes a decision — provided evaluating `m` itself terminates with
the available fuel (guaranteed for acyclic rule sets, C13). -/
theorem inline_same_decision (rs : Rules) (leaf) (hk : NoKey leaf)
    (n : Nat) (m : Str) (d : Tree) (hd : rs.lookup m = some d)
    (hfuel : evalRef rs leaf (n + 1) m ≠ .raise .recursion) (t : Tree) :
    eval rs leaf (n + 1) (inline m d t) = eval rs leaf (n + 1) t := by
  apply evalTree_inline
  -- the reference under fuel n+1 is `d` under fuel n, which more fuel does not change
  have h : evalRef rs leaf (n + 1) m = eval rs leaf n d := by
    rw [← alias, alias_transparent rs leaf hk n m d hd]
  rw [h]
  exact eval_mono rs leaf n d (h ▸ hfuel)

/-- Nested checks are told the name of the policy being enforced, not the alias: in the
model the leaf evaluator of an `enforce` call is fixed (`leafOf creds (some name)`) before
evaluation starts and is the one used at every depth, through every alias. -/
theorem current_rule_forwarded (e : EnfView) (leafOf) (n : Str) (kvs tx) (t : Tree)
    (hreg : findRegistered e.registered n = none) (hne : e.rules.entries.isEmpty = false)
    (h : e.rules.lookup n = some t) :
    enforce e leafOf (.name n) (.obj kvs tx) ⟨false, false⟩ =
      finish ⟨false, false⟩ n (eval e.rules (leafOf (mirrorSystemScope (.obj kvs tx)) (some n)) e.fuel t) := by
  rw [C07.enforce_obj, C07.verdict_name e leafOf _ n t hne h, C07.scopeOf_name e n t hne h, hreg]
  rfl

/-! Non-vacuity: a two-step alias chain `a → b → role leaf`. -/
example : eval ⟨[(['a'], .chk ruleKind ['b']), (['b'], .chk ['r'] ['x'])], .none⟩ (fun _ _ => .ret true) 2
    (.chk ruleKind ['a']) = .ret true := by
  simp [eval, evalTree, evalRef, Rules.lookup, afind, ruleKind]

end OsloPolicy.C06
