import OsloPolicy.Proofs.Layers
/-
C09 — effective policy is defaults, then policy file, then policy.d in sorted order.
`compute` is what a newly constructed enforcer ends up with (`Proofs/Loader.lean`:
`fresh_rules`); these theorems say what that is, for every layer content.
-/
namespace OsloPolicy.C09
open OsloPolicy

/-- **Layers.** For every name: the last definition found in the order registered default,
policy file, then each configured directory in configured order with its regular non-dot
files in sorted name order. -/
theorem layers (enforceNew : Bool) (regs : List RuleDefault) (fs : FS) (n : Str) :
    afind n (compute enforceNew regs fs) = effective enforceNew regs fs n := by
  rw [compute, effective, afind_mergeDefaults, afind_filesStore, afind_filesRules]
  cases lastDef n (fileLayers fs) <;> rfl

/-- names defined nowhere stay undefined -/
theorem undefined_stays (enforceNew : Bool) (regs : List RuleDefault) (fs : FS) (n : Str)
    (h1 : lastDef n (fileLayers fs) = none) (h2 : ∀ d ∈ regs, d.name ≠ n) :
    afind n (compute enforceNew regs fs) = none := by
  rw [layers, effective, h1, List.find?_eq_none.2 (by simpa using h2)]
  rfl

/-- inside one layer sequence a later layer shadows an earlier one, name by name -/
theorem later_layer_wins (ls : List Content) (s : Store) (n : Str) :
    afind n (ls.foldl updStore s) =
      match lastDef n ls with | some v => some (parseValue v) | none => afind n s :=
  afind_foldl_layers parseValue ls s n

/-- the files a directory contributes: exactly its regular, non-dot entries … -/
theorem visible_files (d : Dir) (e : Entry) :
    e ∈ d.visible ↔ e ∈ d.entries ∧ e.isDir = false ∧ e.name.head? ≠ some '.' := by
  simp only [Dir.visible, (sortByName_perm _).mem_iff, List.mem_filter, Bool.and_eq_true,
    Bool.not_eq_true', bne_iff_ne, ne_eq]
/-- … in sorted (code-point lexicographic) name order, nothing lost, nothing invented -/
theorem visible_sorted (d : Dir) : d.visible.Pairwise (fun a b => strLt b.name a.name = false) :=
  sortByName_sorted _
theorem sort_is_permutation (l : List Entry) : (sortByName l).Perm l := sortByName_perm l

/-- a configured-but-missing directory is simply skipped -/
theorem missing_dir_skipped (ds : List (Option Dir)) : dirLayers (none :: ds) = dirLayers ds :=
  rfl

/-- a missing policy file is simply skipped -/
theorem missing_main_skipped (fs : FS) (h : fs.main = none) : fileLayers fs = dirLayers fs.dirs := by
  simp [fileLayers, h]

/-- **Choice of the policy file**: the one given to the enforcer, else the configured one,
except that a deployment which never configured it and has no policy.yaml but does have a
legacy policy.json uses that (when the fallback switch is on). -/
theorem policy_file_choice (i : PickInput) :
    pickPolicyFile i =
      match i.ctor with
      | some f => if f.isEmpty then (if i.value = policyYaml ∧ i.fallback = true ∧ i.neverConfigured = true ∧
          i.yamlExists = false ∧ i.jsonExists = true then policyJson else i.value) else f
      | none => if i.value = policyYaml ∧ i.fallback = true ∧ i.neverConfigured = true ∧
          i.yamlExists = false ∧ i.jsonExists = true then policyJson else i.value := by
  unfold pickPolicyFile
  cases i.ctor <;> simp only [pickDefault_spec]

/-! Non-vacuity: a name defined in the main file and again in a directory file. -/
example : lastDef ['p'] [[(['p'], .str ['a'])], [(['q'], .str ['b'])], [(['p'], .str ['c'])]] = some (.str ['c']) := by
  simp [lastDef, alast]

end OsloPolicy.C09
