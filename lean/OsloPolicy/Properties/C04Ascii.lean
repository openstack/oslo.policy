import OsloPolicy.Properties.C04
import OsloPolicy.Proofs.AsciiLower
/-
C04, closed form on ASCII role names — no `lower` parameter left.
`LowerAscii env` says the environment's `lower` (Python's `str.lower`) is character-wise
`asciiLower` on strings of code points below 128; that this is what the running interpreter
does is the obligation `Tie.lower_ascii_table` (Properties/TieLower.lean, re-checked against
the table extracted from CPython on every run) together with the C04 correspondence.
Under it, `role:X` allows iff some held role and X have the same length and agree
position by position up to the case of the letters A–Z.
-/
namespace OsloPolicy.C04
open OsloPolicy

def IsAscii (s : Str) : Prop := ∀ c ∈ s, c.toNat < 128

def LowerAscii (env : Env) : Prop := ∀ s, IsAscii s → env.lower s = s.map asciiLower

/-- Two characters that differ at most by the case of an ASCII letter. -/
def sameLetter (a b : Char) : Prop := asciiLower a = asciiLower b

/-- Same length, and the same letter at every position. -/
def caseEq : Str → Str → Prop
  | [], [] => True
  | a :: s, b :: x => sameLetter a b ∧ caseEq s x
  | _, _ => False

theorem map_asciiLower_eq_iff (s x : Str) :
    s.map asciiLower = x.map asciiLower ↔ caseEq s x := by
  induction s generalizing x with
  | nil => cases x <;> simp [caseEq]
  | cons a s ih =>
    cases x with
    | nil => simp [caseEq]
    | cons b x => simp [ih, sameLetter, caseEq]

/-- Closed form: with ASCII role names and an ASCII `X`, the check allows iff a held role
equals X up to letter case, position by position. -/
theorem ascii_allow_iff (env : Env) (hl : LowerAscii env) (tgt : List (Str × JVal)) (creds : JVal)
    (m : Str) (rs : List JVal) (tx : Str) (hroles : creds.get rolesKey = some (.arr rs tx))
    (hstr : RolesAreStrings rs) (hra : ∀ s, JVal.str s ∈ rs → IsAscii s) :
    roleCheck env tgt creds m = .ret true ↔
      ∃ x, subst tgt m = .ok x ∧
        (IsAscii x → ∃ s, JVal.str s ∈ rs ∧ caseEq s x) ∧
        (¬ IsAscii x → ∃ s, JVal.str s ∈ rs ∧ s.map asciiLower = env.lower x) := by
  rw [allow_iff env tgt creds m rs tx hroles hstr]
  refine exists_congr fun x => and_congr_right fun _ => ?_
  -- a held role is ASCII, so `lower` on it is `asciiLower`; on `x` only if `x` is ASCII too
  have key : (∃ s, JVal.str s ∈ rs ∧ env.lower s = env.lower x) ↔
      ∃ s, JVal.str s ∈ rs ∧ s.map asciiLower = env.lower x :=
    exists_congr fun s => and_congr_right fun hs => by rw [hl s (hra s hs)]
  rw [key]
  by_cases hxa : IsAscii x
  · simp only [hxa, hl x hxa, map_asciiLower_eq_iff, forall_const, not_true_eq_false, false_imp_iff, and_true]
  · simp only [hxa, false_imp_iff, not_false_eq_true, forall_const, true_and]

/-- `sameLetter` is: equal, or the two cases of one letter A–Z — for all characters; the
ASCII premises of `sameLetter_iff` are not used. -/
theorem sameLetter_iff_toNat (a b : Char) :
    sameLetter a b ↔ a.toNat = b.toNat ∨ (65 ≤ a.toNat ∧ a.toNat ≤ 90 ∧ b.toNat = a.toNat + 32) ∨
      (65 ≤ b.toNat ∧ b.toNat ≤ 90 ∧ a.toNat = b.toNat + 32) := by
  rw [sameLetter, ← Char.toNat_inj, asciiLower_toNat, asciiLower_toNat]
  split <;> split <;> omega

theorem sameLetter_iff (a b : Char) (ha : a.toNat < 128) (hb : b.toNat < 128) :
    sameLetter a b ↔ a.toNat = b.toNat ∨ (65 ≤ a.toNat ∧ a.toNat ≤ 90 ∧ b.toNat = a.toNat + 32) ∨
      (65 ≤ b.toNat ∧ b.toNat ≤ 90 ∧ a.toNat = b.toNat + 32) :=
  (fun _ _ => sameLetter_iff_toNat a b) ha hb

/-- Lower-casing is idempotent (on every character: a lowered `A`–`Z` lands in `a`–`z`). -/
theorem asciiLower_idem (c : Char) (h : c.toNat < 128) : asciiLower (asciiLower c) = asciiLower c := by
  rw [← Char.toNat_inj, asciiLower_toNat (asciiLower c), asciiLower_toNat]
  by_cases hc : 65 ≤ c.toNat ∧ c.toNat ≤ 90
  · rw [if_pos hc, if_neg (by omega)]
  · rw [if_neg hc, if_neg hc]

example : caseEq "Admin".toList "aDMIN".toList := by
  simp [caseEq, sameLetter, asciiLower]

end OsloPolicy.C04
