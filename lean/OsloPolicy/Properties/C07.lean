import OsloPolicy.Proofs.Enforce
/-
C07 — enforce either returns the decision or raises the requested exception.
All statements are for every rule store, check tree, credentials and leaf behaviour.
-/
namespace OsloPolicy.C07
open OsloPolicy

/-- Credentials that are not a mapping are rejected with `InvalidContextObject` in both modes. -/
theorem bad_context (e : EnfView) (leafOf) (rule) (creds : JVal) (rs)
    (h : ∀ kvs t, creds ≠ .obj kvs t) : enforce e leafOf rule creds rs = .raise .invalidContext := by
  cases creds <;> simp_all [enforce]

/-- **do_raise on is do_raise off with denials turned into the requested exception.** -/
theorem on_from_off (e : EnfView) (leafOf) (rule : RuleArg) (creds : JVal) (c : Bool) :
    enforce e leafOf rule creds ⟨true, c⟩ =
      raised c (nameOf rule) (scopeRejects e creds (scopeOf e rule))
        (enforce e leafOf rule creds ⟨false, c⟩) := by
  cases creds with
  | obj kvs tx =>
    rw [enforce_obj, enforce_obj, finish_off]
    cases scopeRejects e (.obj kvs tx) (scopeOf e rule)
    · cases verdict e leafOf (mirrorSystemScope (.obj kvs tx)) rule with
      | ret b => cases b <;> rfl
      | raise x => rfl
    · rfl
  | _ => rfl

/-- do_raise off returns falsy exactly when do_raise on raises one of the requested
exceptions (the remaining case — an exception escaping a check — is the same in both modes). -/
theorem falsy_iff_raises (e : EnfView) (leafOf) (rule : RuleArg) (creds : JVal) (c : Bool) :
    enforce e leafOf rule creds ⟨false, c⟩ = .ret false ↔
      (enforce e leafOf rule creds ⟨true, c⟩ = .raise .invalidScope ∧
          scopeRejects e creds (scopeOf e rule) = true ∧ enforce e leafOf rule creds ⟨false, c⟩ = .ret false) ∨
      (scopeRejects e creds (scopeOf e rule) = false ∧
        enforce e leafOf rule creds ⟨true, c⟩ =
          (if c then .raise .custom else .raise (.notAuthorized (nameOf rule))) ∧
        enforce e leafOf rule creds ⟨false, c⟩ = .ret false) := by
  rw [on_from_off]
  constructor
  · intro h
    rw [h]
    by_cases hr : scopeRejects e creds (scopeOf e rule) <;> simp [raised, hr]
  · rintro (⟨_, _, h⟩ | ⟨_, _, h⟩) <;> exact h

/-- An allowed request never raises, and do_raise never yields a falsy return. -/
theorem allow_same (e : EnfView) (leafOf) (rule : RuleArg) (creds : JVal) (c : Bool) :
    (enforce e leafOf rule creds ⟨false, c⟩ = .ret true →
      enforce e leafOf rule creds ⟨true, c⟩ = .ret true) ∧
    enforce e leafOf rule creds ⟨true, c⟩ ≠ .ret false := by
  rw [on_from_off]
  constructor
  · intro h; rw [h]; rfl
  · cases enforce e leafOf rule creds ⟨false, c⟩ with
    | ret b => cases b <;> cases scopeRejects e creds (scopeOf e rule) <;> cases c <;> simp [raised]
    | raise x => simp [raised]

/-- `authorize` raises `PolicyNotRegistered`, evaluating nothing, for unregistered names and
is `enforce` for registered ones. -/
theorem authorize_unregistered (e : EnfView) (leafOf) (n : Str) (creds) (rs)
    (h : findRegistered e.registered n = none) :
    authorize e leafOf n creds rs = .raise (.notRegistered n) := by
  simp [authorize, h]

theorem authorize_registered (e : EnfView) (leafOf) (n : Str) (creds) (rs) (r)
    (h : findRegistered e.registered n = some r) :
    authorize e leafOf n creds rs = enforce e leafOf (.name n) creds rs := by
  simp [authorize, h]

/-- `authorize` on an unregistered name does not depend on the rules, credentials or leaves at all. -/
theorem authorize_evaluates_nothing (e e' : EnfView) (leafOf leafOf') (n : Str) (creds creds') (rs rs')
    (h : findRegistered e.registered n = none) (h' : e'.registered = e.registered) :
    authorize e leafOf n creds rs = authorize e' leafOf' n creds' rs' := by
  rw [authorize_unregistered e leafOf n creds rs h,
      authorize_unregistered e' leafOf' n creds' rs' (h' ▸ h)]

end OsloPolicy.C07
