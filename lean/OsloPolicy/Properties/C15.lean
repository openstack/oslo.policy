import OsloPolicy.Proofs.RoundTrip
import OsloPolicy.Proofs.ListRuleImage
import OsloPolicy.Proofs.EvalDen
/-
C15 — printing a rule and parsing it back is the identity on meaning and on text.
-/
namespace OsloPolicy.C15
open OsloPolicy

/-- Everything the text parser produces is printable (`WFT`: and/or nodes with ≥ 2 members,
clean leaves) — so the hypothesis of `fix` is met by every parsed rule. -/
theorem parser_image_printable (s : Str) : WFT (parseText s) := parseText_WFT s

/-- **Fix-point.** Parsing the printed form of a printable tree gives the tree back. -/
theorem fix (t : Tree) (h : WFT t) : parseText t.print = t := parseText_print t h

/-- Printing any parsed rule and parsing the printed text gives the same rule — hence the
same printed form and the same decisions. -/
theorem roundtrip (s : Str) : parseText (parseText s).print = parseText s :=
  parseText_print _ (parseText_WFT s)

theorem roundtrip_print (s : Str) : (parseText (parseText s).print).print = (parseText s).print := by
  rw [roundtrip]

theorem roundtrip_decisions (s : Str) (leaf ref) :
    evalTree leaf ref (parseText (parseText s).print) = evalTree leaf ref (parseText s) := by
  rw [roundtrip]

/-- Two printable rules print identically only if they are the same rule — so they decide
identically (what redundancy detection and `RuleDefault.__eq__` rely on). -/
theorem print_injective (t₁ t₂ : Tree) (h₁ : WFT t₁) (h₂ : WFT t₂) (h : t₁.print = t₂.print) :
    t₁ = t₂ := print_inj t₁ t₂ h₁ h₂ h

theorem same_print_same_decision (s₁ s₂ : Str) (h : (parseText s₁).print = (parseText s₂).print)
    (leaf ref) : evalTree leaf ref (parseText s₁) = evalTree leaf ref (parseText s₂) := by
  rw [print_inj _ _ (parseText_WFT s₁) (parseText_WFT s₂) h]

/-- The old list-of-lists syntax with clean check texts also produces printable trees,
which therefore survive print-then-parse. -/
theorem list_rule_roundtrip (v : JVal)
    (h : ∀ xs t, v = .arr xs t → ∀ x ∈ xs, ∀ ss, innerStrings x = some ss →
      ∀ s ∈ ss, CleanCheckText s) :
    parseText (parseListRule v).print = parseListRule v :=
  parseText_print _ (parseListRule_WFT v h)

/-- `Rules.__str__` / `Rules.load`: a rule set dumped as name ↦ printed form (`""` for the
always-true rule) and loaded again is the same rule set, entry by entry. -/
def dumpEntry (t : Tree) : Str := match t with
  | .tt => []
  | t => t.print

theorem dump_load_entry (t : Tree) (h : WFT t) : parseText (dumpEntry t) = t := by
  cases t with
  | tt => exact parseText_nil
  | _ => exact parseText_print _ h

theorem dump_load (entries : List (Str × Tree)) (h : ∀ p ∈ entries, WFT p.2) :
    entries.map (fun p => (p.1, parseText (dumpEntry p.2))) = entries := by
  induction entries with
  | nil => rfl
  | cons p r ih =>
    simp only [List.map_cons, List.cons.injEq]
    refine ⟨?_, ih (fun q hq => h q (by simp [hq]))⟩
    rw [dump_load_entry p.2 (h p (by simp))]

/-! Non-vacuity: an `or` inside an `and` with a negated group is printable. -/
example : WFT (.and [.or [.chk ['a'] ['x'], .tt], .not (.and [.chk ['b'] ['y'], .ff])]) := by
  simp only [WFT, WFTs, CleanLeaf]
  decide

end OsloPolicy.C15
