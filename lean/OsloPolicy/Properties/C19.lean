import OsloPolicy.Model.Checker
import OsloPolicy.Proofs.Layers
import OsloPolicy.Proofs.Enforce
import OsloPolicy.Proofs.StrLit
/-
C19 — oslopolicy-checker reports what the library would decide.
-/
namespace OsloPolicy.C19
open OsloPolicy

/-- **Verdict = library decision.** For a policy name the store can resolve (defined, or
undefined with a usable default rule) and credentials on which the library's `system_scope`
mirroring is the identity, the value the tool's `_try_rule` obtains is exactly what
`Enforcer.enforce` returns (do_raise off) for the same store, credentials and target:
`passed` iff allow, `failed` iff deny, and an exception in the one exactly when in the other. -/
theorem verdict_is_library_decision (rs : Rules) (leafOf) (fuel : Nat) (es : Bool) (kvs tx) (key : Str)
    (hne : rs.entries.isEmpty = false) (t : Tree) (hl : rs.lookup key = some t)
    (hm : mirrorSystemScope (.obj kvs tx) = .obj kvs tx) :
    checkerVerdict rs leafOf fuel (.obj kvs tx) key =
      enforce ⟨rs, [], es, fuel⟩ leafOf (.name key) (.obj kvs tx) ⟨false, false⟩ := by
  rw [C07.enforce_obj, C07.finish_off, hm, C07.verdict_name _ _ _ key t hne hl,
    C07.scopeOf_name _ key t hne hl, checkerVerdict, hl]
  rfl

theorem credsBase_scope (token : List (Str × JVal)) :
    afind systemScope_ (credsBase token) = afind systemScope_ token := by
  have h1 : systemScope_ ≠ "roles".toList := lit_ne (by decide)
  have h2 : systemScope_ ≠ "user_id".toList := lit_ne (by decide)
  have h3 : systemScope_ ≠ "project_id".toList := lit_ne (by decide)
  unfold credsBase
  simp only []
  cases sGet token "project" with
  | none => simp only []; rw [afind_ainsert_other _ _ _ _ h2, afind_ainsert_other _ _ _ _ h1]
  | some p =>
    simp only []
    split
    · rw [afind_ainsert_other _ _ _ _ h3, afind_ainsert_other _ _ _ _ h2, afind_ainsert_other _ _ _ _ h1]
    · rw [afind_ainsert_other _ _ _ _ h2, afind_ainsert_other _ _ _ _ h1]

/-- The credentials the tool derives already carry `system = system_scope`, so the library's
mirroring changes nothing (this is what the repaired tool guarantees; before the repair the
token's `system` mapping was left in place and `system.<key>` rules disagreed).  Premise: the
token itself has no `system_scope` entry (Keystone tokens do not). -/
theorem derived_creds_mirror_invariant (token : List (Str × JVal)) (isAdmin : Bool) (tx : Str)
    (hnoscope : afind systemScope_ token = none) :
    mirrorSystemScope (.obj (deriveCreds token isAdmin) tx) = .obj (deriveCreds token isAdmin) tx := by
  have h4 : systemScope_ ≠ "is_admin".toList := lit_ne (by decide)
  have h5 : systemScope_ ≠ system_ := lit_ne (by decide)
  have h6 : system_ ≠ "is_admin".toList := lit_ne (by decide)
  apply C07.mirrorSystemScope_eq_self
  intro v
  rw [deriveCreds, afind_ainsert_other _ _ _ _ h4, afind_ainsert_other _ _ _ _ h6, withSystem]
  split
  · split
    · rw [afind_ainsert_other _ _ _ _ h5, afind_ainsert_self, afind_ainsert_self]
      exact fun h _ => h
    · simp [credsBase_scope, hnoscope]
  · simp [credsBase_scope, hnoscope]

/-- **Which verdicts.** Without a requested rule: one per policy name containing a colon … -/
theorem names_with_colon (rs : Rules) (k : Str) :
    k ∈ checkerNames rs none ↔ k ∈ rs.entries.map (·.1) ∧ k.contains ':' = true := by
  simp only [checkerNames, List.mem_filter, sortNames, List.mem_map]
  constructor
  · rintro ⟨⟨e, he, rfl⟩, hc⟩
    have := (sortByName_perm _).mem_iff.1 he
    simp only [List.mem_map] at this
    obtain ⟨n, ⟨p, hp, rfl⟩, rfl⟩ := this
    exact ⟨⟨p, hp, rfl⟩, hc⟩
  · rintro ⟨⟨p, hp, rfl⟩, hc⟩
    refine ⟨⟨⟨p.1, false, 0, []⟩, (sortByName_perm _).mem_iff.2 ?_, rfl⟩, hc⟩
    simp only [List.mem_map]
    exact ⟨p.1, ⟨p, hp, rfl⟩, rfl⟩

/-- … in sorted order … -/
theorem names_sorted (rs : Rules) :
    (checkerNames rs none).Pairwise (fun a b => strLt b a = false) := by
  simp only [checkerNames, sortNames]
  apply List.Pairwise.filter
  rw [List.pairwise_map]
  exact sortByName_sorted _

/-- … or only the requested rule. -/
theorem requested_only (rs : Rules) (k : Str) : checkerNames rs (some k) = [k] := rfl

end OsloPolicy.C19
