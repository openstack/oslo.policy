import OsloPolicy.Properties.C10
namespace OsloPolicy.C10
open OsloPolicy

/-- **A deleted policy file leaves no trace, however often it came and went.**  After *any*
history (the file written, loaded, deleted, re-created with other content, loaded again, …)
that ends with the main file being deleted, the next load yields exactly the rules computed
from the policy directories and the registered defaults alone — no content the file ever had
takes part.  (Statement broken by seeded change C10-A7, where a second disappearance kept the
overrides of the re-created file.) -/
theorem deleted_main_leaves_no_trace (enforceNew : Bool) (regs : List RuleDefault) (fs0 : FS)
    (clock0 : Nat) (hst : FS.Stamped fs0 clock0) (ops : List Op) :
    let w := (ops ++ [Op.delete .main]).foldl (step enforceNew regs) ⟨fs0, Enf.init fs0.dirs.length, clock0⟩
    (load enforceNew regs w.enf w.fs false).rules =
      mergeDefaults enforceNew ((dirLayers w.fs.dirs).foldl updFileRules []) regs
        ((dirLayers w.fs.dirs).foldl updStore []) := by
  have hinv := foldl_stepR_fs .. ▸
    Inv_history enforceNew regs fs0 clock0 hst ((ops ++ [Op.delete .main]).map .fs)
  exact vanished_main enforceNew regs _ hinv (by simp [List.foldl_append, step, fsStep])

/-- … and the directories it is computed from are those of the history without the deletion:
deleting the main file touches nothing else. -/
theorem delete_main_keeps_dirs (enforceNew : Bool) (regs : List RuleDefault) (w : World) :
    (step enforceNew regs w (Op.delete .main)).fs.dirs = w.fs.dirs := by
  simp [step, fsStep]

end OsloPolicy.C10
