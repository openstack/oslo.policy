import OsloPolicy.Model.Tables
import OsloPolicy.Generated.RepoTables
/-
Obligations tying the check kinds the evaluator model dispatches on (`rule`, `role`, the
generic `None` handler; extensions `http`, `https`) and the documented exception classes
to `_checks.registered_checks`, the installed entry points and `policy.py`.
-/
namespace OsloPolicy.Tie
open OsloPolicy

theorem registered_kinds_same : Generated.registeredKinds = Tables.registeredKinds := rfl
theorem extension_kinds_same : Generated.extensionKinds = Tables.extensionKinds := rfl
theorem documented_exceptions_exist :
    Tables.documentedExceptions.all (fun e => Generated.exceptionClasses.contains e) = true := by decide

end OsloPolicy.Tie
