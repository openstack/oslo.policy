import OsloPolicy.Model.Tables
import OsloPolicy.Model.Lexer
import OsloPolicy.Generated.PyTables
import OsloPolicy.Generated.RepoTables
import OsloPolicy.Proofs.ReduceTable
/-
Obligations tying the parser/lexer model to /repo's current source: the generated
tables (rewritten from the working tree on every run) must equal the model's constants.
A change to the reducer table, the tokenizer's keyword tuple, quote pairs or split
pattern, or the unreduced-token guard breaks one of these evaluations (`rfl` where the two
tables must be identical, `decide` where they are compared up to order).
-/
namespace OsloPolicy.Tie
open OsloPolicy

/-- Same set of (pattern, method) pairs; the order the metaclass lists them in is
irrelevant because no two patterns can match the same stack (`reducers_nonoverlapping`). -/
theorem reducers_same : (Generated.reducers.isPerm Tables.reducers) = true := by decide
theorem reducers_nonoverlapping : Tables.nonOverlapping Generated.reducers = true := by decide
/-- Rows with equal patterns name the same method (with `reducers_nonoverlapping`: at most
one row can fire on any stack). -/
theorem reducers_methods_agree : methodsAgree Generated.reducers = true := by decide
/-- The table-driven reducer (`Proofs/ReduceTable.lean`: an interpreter of ANY `reducers`
table, mirroring `ParseState.reduce`), run on the table read from the source today, is
exactly the hand-written `reduce` of the model.  All that is used of `Generated.reducers`
are the three facts above, so a changed table breaks one of those `decide`s. -/
theorem reducers_drive_model : ∀ st, reduceWith Generated.reducers st = reduce st :=
  reduceWith_of_perm reducers_same reducers_nonoverlapping reducers_methods_agree
/-- these three are used only through membership tests, so they are compared as sets -/
theorem unreduced_same : (Generated.unreducedTokens.isPerm Tables.unreducedTokens) = true := by decide
theorem keywords_same : (Generated.keywords.isPerm Tables.keywords) = true := by decide
theorem quotes_same : (Generated.quotePairs.isPerm Tables.quotePairs) = true := by decide
theorem tokenize_re_same : Generated.tokenizeRe = Tables.tokenizeRe := rfl
/-- The model's whitespace set is Python's `str.isspace`, which is also `re`'s `\s`. -/
theorem space_same : Generated.pySpaceCodes = pySpaceCodes ∧ Generated.pyReSpaceCodes = pySpaceCodes :=
  ⟨rfl, rfl⟩
/-- Only the twelve ASCII letters lower-case into a letter of `and`/`or`/`not`, so ASCII
lower-casing recognises exactly the keywords `str.lower()` recognises. -/
theorem lower_keyword_preimage :
    Generated.pyLowerIntoKeyword = [65, 68, 78, 79, 82, 84, 97, 100, 110, 111, 114, 116] := rfl

end OsloPolicy.Tie

namespace OsloPolicy
/-- Every pattern of the table in the source has length ≥ 2, so for that table the shrink
guard of `stepRow` is vacuous (`stepRow_guard`): `stepRow` is "pattern matches and method applies". -/
theorem stepRow_guard_generated {row : List String × String} (hr : row ∈ Generated.reducers)
    {st out : List Ent} (hm : matchesTop row.1 st = true)
    (ha : applyMethod row.2 (st.take row.1.length).reverse = some out) :
    stepRow row st = some (out.reverse ++ st.drop row.1.length) := by
  have hall : Generated.reducers.all (fun r => decide (2 ≤ r.1.length)) = true := by decide
  exact stepRow_guard (by simpa using List.all_eq_true.1 hall row hr) hm ha

end OsloPolicy
