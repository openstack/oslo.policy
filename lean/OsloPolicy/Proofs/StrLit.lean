import OsloPolicy.Model.Basic
/-
Facts about the characters of a string literal, by evaluation over the characters.  The kernel
reads `"…"` as `String.ofList […]` at no cost, whereas evaluating `String.toList` on a literal
is dear; so the lemmas are stated for `(String.ofList l).toList` and used on `"…".toList`.
-/
namespace OsloPolicy

theorem of_contains_lit {l : List Char} {p : Char → Prop} (h : ∀ c ∈ l, p c) {c : Char}
    (hc : (String.ofList l).toList.contains c = true) : p c := by
  rw [String.toList_ofList] at hc; exact h c (List.contains_iff_mem.1 hc)

theorem lit_ne {l₁ l₂ : List Char} (h : l₁ ≠ l₂) :
    (String.ofList l₁).toList ≠ (String.ofList l₂).toList := by
  rwa [String.toList_ofList, String.toList_ofList]

end OsloPolicy
