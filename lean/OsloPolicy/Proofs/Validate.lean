import OsloPolicy.Spec.RefGraph
import OsloPolicy.Proofs.EvalFuel
import OsloPolicy.Proofs.Assoc
/-
What C13 (`Properties/C13.lean`) rests on: the cycle walker against the reference graph of
`Spec/RefGraph.lean`, and the reference walk that an exhausted evaluation exhibits.
-/
namespace OsloPolicy

theorem cycTree_eq_any (step : List Str → Str → Bool) (seen : List Str) (t : Tree) :
    cycTree step seen t = (refsTree t).any (step seen) := by
  induction t using Tree.induction with
  | tt | ff | and_nil | or_nil => rfl
  | chk k m => by_cases hk : k = ruleKind <;> simp [cycTree, refsTree, hk]
  | not t ih => simpa only [cycTree, refsTree] using ih
  | and_cons t ts ih ihs =>
    simp only [cycTree, refsTree] at ihs
    simp only [cycTree, cycList, refsTree, refsList, List.any_append, ih, ihs]
  | or_cons t ts ih ihs =>
    simp only [cycTree, refsTree] at ihs
    simp only [cycTree, cycList, refsTree, refsList, List.any_append, ih, ihs]

theorem cycList_eq_any (step : List Str → Str → Bool) (seen : List Str) :
    (ts : List Tree) → cycList step seen ts = (refsList ts).any (step seen) :=
  fun ts => by simpa only [cycTree, refsTree] using cycTree_eq_any step seen (.and ts)

theorem cycRef_succ (rs : List (Str × Tree)) (n : Nat) (seen : List Str) (m : Str) :
    cycRef rs (n + 1) seen m =
      (seen.contains m || (succs rs m).any (cycRef rs n (m :: seen))) := by
  simp only [cycRef, succs]
  cases afind m rs with
  | none => simp
  | some t => simp only [cycTree_eq_any]

theorem cycRef_of_mem (rs : List (Str × Tree)) {seen : List Str} {m : Str} (h : m ∈ seen) :
    ∀ fuel, cycRef rs fuel seen m = true
  | 0 => by simpa [cycRef] using h
  | _ + 1 => by simp [cycRef, h]

theorem succs_defined {rs : List (Str × Tree)} {m m' : Str} (h : m' ∈ succs rs m) :
    m ∈ rs.map (·.1) := by
  unfold succs at h
  cases hR : afind m rs with
  | none => simp [hR] at h
  | some t => exact afind_mem_keys m rs t hR

theorem cycRef_sound (rs : List (Str × Tree)) : ∀ fuel seen m, cycRef rs fuel seen m = true →
    ∃ l, Walk rs (m :: l) ∧ ¬ (seen ++ m :: l).Nodup := by
  have stop : ∀ {seen : List Str} {m}, seen.contains m = true →
      ∃ l, Walk rs (m :: l) ∧ ¬ (seen ++ m :: l).Nodup := fun h =>
    ⟨[], .one _, by simp [List.nodup_append, List.contains_iff_mem.1 h]⟩
  intro fuel
  induction fuel with
  | zero => intro seen m h; exact stop h
  | succ fuel ih =>
    intro seen m h
    rw [cycRef_succ] at h
    simp only [Bool.or_eq_true, List.any_eq_true] at h
    rcases h with h | ⟨m', hm', h⟩
    · exact stop h
    · obtain ⟨l, hw, hnd⟩ := ih (m :: seen) m' h
      exact ⟨m' :: l, .cons hm' hw, fun hn => hnd (List.perm_middle.nodup_iff.1 hn)⟩

/-- Pigeonhole: the path-set holds distinct defined names, so it cannot outgrow the rule set,
and fuel that covers the rules not yet on it is never what ends the search. -/
theorem cycRef_complete (rs : List (Str × Tree)) :
    ∀ l fuel seen m, Walk rs (m :: l) → ¬ (seen ++ m :: l).Nodup →
      seen.Nodup → (∀ x ∈ seen, x ∈ rs.map (·.1)) →
      (rs.map (·.1)).length + 1 ≤ fuel + seen.length → cycRef rs fuel seen m = true := by
  intro l
  induction l with
  | nil =>
    intro fuel seen m _ hnd hs _ _
    refine cycRef_of_mem rs (Classical.byContradiction fun hm => hnd ?_) fuel
    exact List.perm_middle.nodup_iff.2 (List.nodup_cons.2 ⟨by simpa using hm, by simpa using hs⟩)
  | cons m' l ih =>
    intro fuel seen m hw hnd hs hsub hfuel
    by_cases hm : m ∈ seen
    · exact cycRef_of_mem rs hm fuel
    · obtain _ | ⟨hedge, hw'⟩ := hw
      have hs' : (m :: seen).Nodup := List.nodup_cons.2 ⟨hm, hs⟩
      have hsub' : ∀ x ∈ m :: seen, x ∈ rs.map (·.1) :=
        List.forall_mem_cons.2 ⟨succs_defined hedge, hsub⟩
      have hlen := List.Nodup.length_le_of_subset hs' hsub'
      cases fuel with
      | zero => simp at hlen hfuel; omega
      | succ fuel =>
        rw [cycRef_succ]
        simp only [Bool.or_eq_true, List.any_eq_true]
        exact .inr ⟨m', hedge, ih fuel (m :: seen) m' hw'
          (fun hn => hnd (List.perm_middle.nodup_iff.2 hn)) hs' hsub' (by simp at hfuel ⊢; omega)⟩

theorem cycRef_exact (rs : List (Str × Tree)) (m : Str) :
    cycRef rs (rs.length + 1) [] m = true ↔ ∃ l, Walk rs (m :: l) ∧ ¬ (m :: l).Nodup := by
  constructor
  · intro h; simpa using cycRef_sound rs _ [] m h
  · rintro ⟨l, hw, hnd⟩
    exact cycRef_complete rs l _ [] m hw (by simpa using hnd) .nil (by simp) (by simp)

theorem evalTree_rec (leaf : Str → Str → Outcome) (r : Str → Outcome) (hl : NoRec leaf) (t : Tree)
    (h : evalTree leaf r t = .raise .recursion) : ∃ m ∈ refsTree t, r m = .raise .recursion :=
  (evalTree_raise leaf r _ t h).resolve_right fun ⟨k, m, e⟩ => hl k m e

theorem evalAll_rec (leaf : Str → Str → Outcome) (r : Str → Outcome) (hl : NoRec leaf) :
    (ts : List Tree) → evalAll leaf r ts = .raise .recursion → ∃ m ∈ refsList ts, r m = .raise .recursion :=
  fun ts => by simpa only [evalTree, refsTree] using evalTree_rec leaf r hl (.and ts)

theorem evalAny_rec (leaf : Str → Str → Outcome) (r : Str → Outcome) (hl : NoRec leaf) :
    (ts : List Tree) → evalAny leaf r ts = .raise .recursion → ∃ m ∈ refsList ts, r m = .raise .recursion :=
  fun ts => by simpa only [evalTree, refsTree] using evalTree_rec leaf r hl (.or ts)

/-- every reference made from a stored tree is to a defined name -/
def Closed (rs : List (Str × Tree)) : Prop :=
  ∀ p ∈ rs, ∀ m ∈ refsTree p.2, ∃ t, afind m rs = some t

theorem evalRef_rec_walk (rs : Rules) (leaf : Str → Str → Outcome) (hl : NoRec leaf)
    (hc : Closed rs.entries) : ∀ (k : Nat) (m : Str), (∃ t, afind m rs.entries = some t) →
      evalRef rs leaf k m = .raise .recursion →
      ∃ l, l.length = k ∧ Walk rs.entries (m :: l) ∧ ∀ x ∈ m :: l, x ∈ rs.entries.map (·.1) := by
  intro k
  induction k with
  | zero =>
    rintro m ⟨t, ht⟩ _
    exact ⟨[], rfl, .one m, List.forall_mem_cons.2 ⟨afind_mem_keys _ _ t ht, nofun⟩⟩
  | succ k ih =>
    rintro m ⟨t, ht⟩ h
    rw [evalRef_succ, Rules.lookup_defined rs m t ht] at h
    simp only [] at h
    obtain ⟨m', hm', hr⟩ := evalTree_rec leaf _ hl t (catchKey_eq_rec.1 h)
    have hdef : ∃ t', afind m' rs.entries = some t' := hc (m, t) (afind_some_mem m _ t ht) m' hm'
    obtain ⟨l, hlen, hw, hall⟩ := ih m' hdef hr
    have hedge : m' ∈ succs rs.entries m := by simp only [succs, ht]; exact hm'
    exact ⟨m' :: l, by simp [hlen], .cons hedge hw,
      List.forall_mem_cons.2 ⟨afind_mem_keys _ _ t ht, hall⟩⟩

end OsloPolicy
