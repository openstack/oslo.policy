import OsloPolicy.Model.SampleGen
/-
C17 — the generated YAML sample overrides nothing.

Every line `sampleYaml` emits is empty or starts with `#`, no line hides a line break
(so no text can "escape" its comment), the only `#"…` lines are the commented rule lines
`#"name": "check_str"`, and every default has one.
-/
namespace OsloPolicy

/-- characters that end a line for `str.splitlines` (a superset of YAML's line breaks) -/
def isBreak (c : Char) : Bool :=
  c = '\n' || c = '\r' || c = '\x0b' || c = '\x0c' || c = '\x1c' || c = '\x1d' || c = '\x1e' ||
  c = '\u0085' || c = '\u2028' || c = '\u2029'

def NoBreak (s : Str) : Prop := ∀ c ∈ s, isBreak c = false

/-- contract of `textwrap.wrap(text, 70, initial_indent='# ', subsequent_indent='# ')` -/
def WrapOK (wrap : Str → List Str) : Prop :=
  ∀ s, ∀ l ∈ wrap s, (∃ r, l = '#' :: ' ' :: r) ∧ NoBreak l

/-- contract of `str.splitlines` -/
def SplitOK (split : Str → List Str) : Prop := ∀ s, ∀ l ∈ split s, NoBreak l

/-- a comment line: a bare `#` or `# …` -/
def CommentLine (l : Str) : Prop := l = ['#'] ∨ ∃ r, l = '#' :: ' ' :: r

/-- the fields that are interpolated verbatim are free of line breaks ("printable") -/
def GenDefault.Printable (d : GenDefault) : Prop :=
  NoBreak d.name ∧ NoBreak d.checkStr ∧ NoBreak d.deprecatedSince ∧
  (∀ ops, d.operations = some ops → ∀ o ∈ ops, NoBreak o.method ∧ NoBreak o.path) ∧
  (∀ ts, d.scopeTypes = some ts → ∀ t ∈ ts, NoBreak t) ∧
  (∀ ls, d.description = some ls → ∀ l ∈ ls, NoBreak l) ∧
  (∀ ls, d.deprecatedReason = some ls → ∀ l ∈ ls, NoBreak l) ∧
  (∀ o, d.deprecated = some o → NoBreak o.1 ∧ NoBreak o.2)

/-- `' '`..`'~'`: what the generator's own texts are made of, and all that `json.dumps` writes (`ensure_ascii`) -/
def Plain (c : Char) : Prop := 32 ≤ c.toNat ∧ c.toNat ≤ 126

instance : DecidablePred Plain := fun c => inferInstanceAs (Decidable (32 ≤ c.toNat ∧ c.toNat ≤ 126))

theorem isBreak_plain {c : Char} (h : Plain c) : isBreak c = false := by
  cases hb : isBreak c with
  | false => rfl
  | true =>
    simp only [isBreak, Bool.or_eq_true, decide_eq_true_eq] at hb
    rcases hb with ((((((((rfl | rfl) | rfl) | rfl) | rfl) | rfl) | rfl) | rfl) | rfl) | rfl <;>
      exact absurd h (by decide)

theorem NoBreak.of_plain {s : Str} (h : ∀ c ∈ s, Plain c) : NoBreak s := fun c hc => isBreak_plain (h c hc)

/-- For a string literal. The kernel reads `"…"` as `String.ofList […]` at no cost, whereas evaluating
`String.toList` on it is dear: hence this form, to be used as `NoBreak.lit (by decide)`. -/
theorem NoBreak.lit {l : List Char} (h : ∀ c ∈ l, Plain c) : NoBreak (String.ofList l).toList := by
  rw [String.toList_ofList]; exact .of_plain h

/-- the generator's own words; given to `simp` together with `-String.reduceToList`, which would spell the
literals out first (by a `rfl` that makes the kernel evaluate `String.toList`) -/
theorem noBreak_words :
    NoBreak ", ".toList ∧ NoBreak "Intended scope(s): ".toList ∧ NoBreak "DEPRECATED".toList ∧
    NoBreak " has been deprecated since ".toList ∧ NoBreak " in favor of ".toList ∧ NoBreak ": ".toList ∧
    NoBreak "rule:".toList :=
  ⟨.lit (by decide), .lit (by decide), .lit (by decide), .lit (by decide), .lit (by decide), .lit (by decide),
    .lit (by decide)⟩

@[simp] theorem noBreak_nil : NoBreak [] := by intro c h; cases h

@[simp] theorem noBreak_cons {c : Char} {s : Str} : NoBreak (c :: s) ↔ isBreak c = false ∧ NoBreak s := by
  simp [NoBreak]

@[simp] theorem noBreak_append {a b : Str} : NoBreak (a ++ b) ↔ NoBreak a ∧ NoBreak b := by
  simp [NoBreak, or_imp, forall_and]

theorem NoBreak.sub {a b : Str} (hb : NoBreak b) (h : a ⊆ b) : NoBreak a := fun _ hc => hb _ (h hc)

theorem noBreak_pyRstrip {s : Str} (h : NoBreak s) : NoBreak (pyRstrip s) :=
  h.sub fun _ hc => List.mem_reverse.1 ((List.dropWhile_sublist _).subset (List.mem_reverse.1 hc))

theorem noBreak_pyLstrip {s : Str} (h : NoBreak s) : NoBreak (pyLstrip s) :=
  h.sub (List.dropWhile_sublist _).subset

@[simp] theorem noBreak_q {s : Str} : NoBreak (q s) ↔ NoBreak s := by simp [q, isBreak]

@[simp] theorem noBreak_hashSp {s : Str} : NoBreak (hashSp s) ↔ NoBreak s := by simp [hashSp, isBreak]

theorem noBreak_joinWith {sep : Str} (hsep : NoBreak sep) {ls : List Str} (h : ∀ l ∈ ls, NoBreak l) :
    NoBreak (joinWith sep ls) := by
  fun_induction joinWith sep ls with
  | case1 => exact noBreak_nil
  | case2 x => exact h x (List.mem_singleton_self x)
  | case3 x y r ih =>
    obtain ⟨hx, hr⟩ := List.forall_mem_cons.1 h
    simp [hx, hsep, ih hr]

/-- the two-character escapes of `json.encoder.ESCAPE_DCT`: the character, the letter after the backslash -/
def escPairs : List (Char × Char) :=
  [('"', '"'), ('\\', '\\'), ('\n', 'n'), ('\r', 'r'), ('\t', 't'), ('\x08', 'b'), ('\x0c', 'f')]

theorem jsonEscChar_of_mem : ∀ p ∈ escPairs, jsonEscChar p.1 = ['\\', p.2] := by decide

theorem jsonEscChar_of_not_mem {c : Char} (h : c ∉ escPairs.map (·.1)) :
    jsonEscChar c = if Plain c then [c] else if c.toNat < 65536 then u4 c.toNat
      else u4 (55296 + (c.toNat - 65536) / 1024) ++ u4 (56320 + (c.toNat - 65536) % 1024) := by
  simp only [escPairs, List.map, List.mem_cons, List.not_mem_nil, or_false, not_or] at h
  simp only [jsonEscChar, h, if_false]
  rfl

theorem hexDigit_mod (n : Nat) : hexDigit n = hexDigit (n % 16) := by
  unfold hexDigit
  rw [Nat.mod_mod]

theorem plain_hexDigit (n : Nat) : Plain (hexDigit n) := by
  rw [hexDigit_mod]
  exact (by decide : ∀ m < 16, Plain (hexDigit m)) _ (Nat.mod_lt _ (by decide))

theorem plain_u4 (n : Nat) : ∀ c ∈ u4 n, Plain c := by
  simp [u4, plain_hexDigit, show Plain '\\' ∧ Plain 'u' by decide]

/-- `ensure_ascii`: whatever the character, `json.dumps` writes plain ASCII for it -/
theorem plain_jsonEscChar (c : Char) : ∀ x ∈ jsonEscChar c, Plain x := by
  by_cases h : c ∈ escPairs.map (·.1)
  · obtain ⟨p, hp, rfl⟩ := List.mem_map.1 h
    exact (by decide : ∀ p ∈ escPairs, ∀ x ∈ jsonEscChar p.1, Plain x) p hp
  · rw [jsonEscChar_of_not_mem h]
    split
    · simpa using ‹Plain c›
    · split
      · exact plain_u4 _
      · exact List.forall_mem_append.2 ⟨plain_u4 _, plain_u4 _⟩

theorem noBreak_escape (s : Str) : NoBreak (s.flatMap jsonEscChar) :=
  .of_plain fun _ hx => let ⟨c, _, hc⟩ := List.mem_flatMap.1 hx; plain_jsonEscChar c _ hc

/-- an escaped check string is one line whatever it holds; a plain one is written as it is -/
theorem noBreak_formatCheckStr_iff {s : Str} : NoBreak (formatCheckStr s) ↔ needsEscape s = true ∨ NoBreak s := by
  unfold formatCheckStr
  split <;> simp [*, noBreak_escape, isBreak]

theorem noBreak_formatCheckStr {s : Str} (hs : NoBreak s) : NoBreak (formatCheckStr s) :=
  noBreak_formatCheckStr_iff.2 (.inr hs)


@[simp] theorem commentLine_bare : CommentLine ['#'] := .inl rfl

@[simp] theorem commentLine_hashSp (s : Str) : CommentLine (hashSp s) := .inr ⟨s, rfl⟩

theorem CommentLine.not_rule {l : Str} (h : CommentLine l) : ¬ ∃ r, l = '#' :: '"' :: r := by
  rintro ⟨r, rfl⟩
  rcases h with h | ⟨r', h⟩ <;> simp at h

theorem CommentLine.head {l : Str} (h : CommentLine l) : l.head? = some '#' := by
  rcases h with rfl | ⟨r, rfl⟩ <;> rfl
/-- lines that define nothing and hide nothing: each is empty or a comment, and holds no line break -/
def Inert (ls : List Str) : Prop := ∀ l ∈ ls, (l = [] ∨ CommentLine l) ∧ NoBreak l

@[simp] theorem inert_nil : Inert [] := nofun

@[simp] theorem inert_cons {l : Str} {ls : List Str} :
    Inert (l :: ls) ↔ ((l = [] ∨ CommentLine l) ∧ NoBreak l) ∧ Inert ls := List.forall_mem_cons

@[simp] theorem inert_append {a b : List Str} : Inert (a ++ b) ↔ Inert a ∧ Inert b := List.forall_mem_append

theorem inert_wrap {wrap : Str → List Str} (hw : WrapOK wrap) (s : Str) : Inert (wrap s) :=
  fun l hl => ⟨.inr (.inr (hw s l hl).1), (hw s l hl).2⟩

theorem helpLoop_inert {wrap : Str → List Str} (hw : WrapOK wrap) (ls out para : List Str)
    (hls : ∀ l ∈ ls, NoBreak l) (hout : Inert out) : Inert (helpLoop wrap ls out para) := by
  fun_induction helpLoop wrap ls out para
  case case1 => exact hout
  case case2 => simp [hout, inert_wrap hw]
  all_goals
    rename_i ih
    obtain ⟨hline, hrest⟩ := List.forall_mem_cons.1 hls
    exact ih hrest (by simp [hout, inert_wrap hw, noBreak_pyRstrip hline, isBreak])

theorem formatHelp_inert {wrap : Str → List Str} (hw : WrapOK wrap) (ols : Option (List Str))
    (hls : ∀ ls, ols = some ls → ∀ l ∈ ls, NoBreak l) : Inert (formatHelp wrap ols) := by
  cases ols with
  | none => simp [formatHelp, isBreak]
  | some ls =>
    have h := helpLoop_inert hw ls [] [] (hls ls rfl) inert_nil
    simp only [formatHelp]
    split
    · simp
    · exact h

theorem noBreak_ruleText {d : GenDefault} (hd : d.Printable) : NoBreak (ruleText d) := by
  simp [ruleText, hd.1, noBreak_formatCheckStr hd.2.1, isBreak]

theorem opLines_inert {d : GenDefault} (hd : d.Printable) : Inert (opLines d) := by
  obtain ⟨-, -, -, hops, -⟩ := hd
  unfold opLines
  split
  · exact inert_nil
  · next ops heq =>
    intro l hl
    obtain ⟨o, ho, rfl⟩ := List.mem_map.1 hl
    simp [hops ops heq o (List.mem_filter.1 ho).1, isBreak]

theorem scopeLine_inert {d : GenDefault} (hd : d.Printable) : Inert (scopeLine d) := by
  obtain ⟨-, -, -, -, hts, -⟩ := hd
  unfold scopeLine
  split
  · exact inert_nil
  · next ts heq =>
    simp [noBreak_words, noBreak_joinWith noBreak_words.1 (hts ts heq), -String.reduceToList]

/-- for the generator's fixed comment lines, see `NoBreak.lit` -/
theorem inert_lit {r : List Char} {ls : List Str} (h : ∀ c ∈ r, Plain c) (hls : Inert ls) :
    Inert ((String.ofList ('#' :: ' ' :: r)).toList :: ls) := by
  rw [String.toList_ofList]
  show Inert (hashSp r :: ls)
  simpa [hls] using NoBreak.of_plain h

theorem renameWarning_inert : Inert renameWarning := by
  iterate 9 refine inert_lit (by decide) ?_
  exact inert_nil

theorem noBreak_deprecatedSentence {d : GenDefault} (hd : d.Printable) (old : Str × Str)
    (ho : NoBreak old.1 ∧ NoBreak old.2) : NoBreak (deprecatedSentence d old) := by
  obtain ⟨hn, hc, hsince, -⟩ := hd
  simp [deprecatedSentence, noBreak_words, *, isBreak, -String.reduceToList]

/-- one default: the rule line, between lines that define nothing -/
theorem formatRuleYaml_shape {wrap split : Str → List Str} (hw : WrapOK wrap) (hs : SplitOK split) (cr add : Bool)
    (d : GenDefault) (hd : d.Printable) :
    ∃ pre post, formatRuleYaml wrap split cr add d = pre ++ ((if cr then ['#'] else []) ++ ruleText d) :: post ∧
      Inert pre ∧ Inert post := by
  obtain ⟨hn, -, hsince, -, -, hdesc, hreason, hold⟩ := id hd
  have hr := formatHelp_inert hw _ hreason
  unfold formatRuleYaml
  extract_lets core
  obtain ⟨pre, hpre, hcore⟩ : ∃ pre, Inert pre ∧ core = pre ++ [(if cr then ['#'] else []) ++ ruleText d, []] := by
    refine ⟨_, ?_, List.append_assoc ..⟩
    simp only [inert_append, opLines_inert hd, scopeLine_inert hd, and_true]
    split
    · exact inert_nil
    · next ls heq => exact formatHelp_inert hw _ fun _ h => Option.some.inj h ▸ hdesc ls heq
  clear_value core
  subst hcore
  split
  · exact ⟨_, _, (List.append_assoc ..).symm, by simp [*, noBreak_words, isBreak, -String.reduceToList], by simp⟩
  · split
    · next old heq =>
      have hold' := hold old (by split at heq; exact heq; cases heq)
      have := formatHelp_inert hw (some (split (deprecatedSentence d old))) fun _ h => Option.some.inj h ▸ hs _
      simp only [List.append_assoc, List.cons_append, List.nil_append]
      exact ⟨pre, _, rfl, hpre, by
        simp [apply_ite Inert, renameWarning_inert, noBreak_words, *, -String.reduceToList]⟩
    · exact ⟨pre, _, rfl, hpre, by simp⟩

theorem formatRuleYaml_lines {wrap split : Str → List Str} (hw : WrapOK wrap) (hs : SplitOK split) (cr add : Bool)
    (d : GenDefault) (hd : d.Printable) :
    ∀ l ∈ formatRuleYaml wrap split cr add d,
      l = (if cr then ['#'] else []) ++ ruleText d ∨ (l = [] ∨ CommentLine l) ∧ NoBreak l := by
  obtain ⟨pre, post, e, hpre, hpost⟩ := formatRuleYaml_shape hw hs cr add d hd
  intro l hl
  simp only [e, List.mem_append, List.mem_cons] at hl
  rcases hl with h | h | h
  · exact .inr (hpre l h)
  · exact .inl h
  · exact .inr (hpost l h)

end OsloPolicy
