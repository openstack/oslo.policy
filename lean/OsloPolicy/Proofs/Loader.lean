import OsloPolicy.Proofs.Layers
/-
C10 / C12: the mtime-cached loader refines "compute from the current files".
-/
namespace OsloPolicy

theorem applyDir_eq (d : Dir) (e : Enf) :
    applyDir d e =
    { e with rules := (d.visible.map (·.content)).foldl updStore e.rules,
             fileRules := (d.visible.map (·.content)).foldl updFileRules e.fileRules } := by
  unfold applyDir
  induction d.visible generalizing e with
  | nil => rfl
  | cons f l ih => exact ih _

theorem dirLayers_nil : dirLayers [] = [] := rfl

theorem applyDirs_nil (e : Enf) : applyDirs [] e = e := rfl

theorem applyDirs_eq (dirs : List (Option Dir)) (e : Enf) :
    applyDirs dirs e =
    { e with rules := (dirLayers dirs).foldl updStore e.rules,
             fileRules := (dirLayers dirs).foldl updFileRules e.fileRules } := by
  induction dirs generalizing e with
  | nil => rfl
  | cons od ds ih =>
    cases od with
    | none => exact ih e
    | some d =>
      show applyDirs ds (applyDir d e) = _
      rw [ih, applyDir_eq,
        show dirLayers (some d :: ds) = d.visible.map (·.content) ++ dirLayers ds from rfl]
      simp only [List.foldl_append]

theorem applyDirs_rules (dirs : List (Option Dir)) (e : Enf) :
    (applyDirs dirs e).rules = (dirLayers dirs).foldl updStore e.rules := by
  rw [applyDirs_eq]

theorem applyDirs_fileRules (dirs : List (Option Dir)) (e : Enf) :
    (applyDirs dirs e).fileRules = (dirLayers dirs).foldl updFileRules e.fileRules := by
  rw [applyDirs_eq]

theorem dirLayers_of_not_anyExists (dirs : List (Option Dir)) (h : anyExists dirs = false) :
    dirLayers dirs = [] := by
  induction dirs with
  | nil => rfl
  | cons od ds ih =>
    cases od with
    | none => exact ih (by simpa [anyExists] using h)
    | some d => simp [anyExists] at h

/-- what the main file contributes to the layers -/
def mainLayer (fs : FS) : List Content :=
  match fs.main with | some (c, _) => [c] | none => []

def mainStore (fs : FS) : Store := (mainLayer fs).foldl updStore []
def mainFR (fs : FS) : Content := (mainLayer fs).foldl updFileRules []

theorem filesStore_eq (fs : FS) :
    filesStore fs = (dirLayers fs.dirs).foldl updStore (mainStore fs) := List.foldl_append

theorem filesRules_eq (fs : FS) :
    filesRules fs = (dirLayers fs.dirs).foldl updFileRules (mainFR fs) := List.foldl_append

/-- would `_load_policy_file` (no force) report a change? -/
def trigCore (e : Enf) (fs : FS) : Bool :=
  match fs.main with
  | none => true
  | some (_, t) => match e.mainCache with
    | none => true
    | some (_, mt) => decide (t > mt) || e.rules.isEmpty

/-- cached data is what the file holds whenever the cache would be used -/
def CacheOK (e : Enf) (fs : FS) : Prop :=
  ∀ data mt c t, e.mainCache = some (data, mt) → fs.main = some (c, t) → t ≤ mt → data = c

/-- `_load_policy_file`: it reports a change exactly when forced or `trigCore`, then holds the
main file's contribution, and otherwise keeps both tables; the cache entry is the old one, the
file as it is now, or gone. -/
theorem loadMain_spec (e : Enf) (fs : FS) (force : Bool) (hc : force = false → CacheOK e fs) :
    ∃ mc, (mc = e.mainCache ∨ mc = fs.main ∨ mc = none) ∧ (force = true → mc = fs.main) ∧
      loadMain e fs force =
        (if force || trigCore e fs
          then { e with mainCache := mc, rules := mainStore fs, fileRules := mainFR fs }
          else { e with mainCache := mc }, force || trigCore e fs) := by
  unfold loadMain loadMainC trigCore mainStore mainFR mainLayer
  cases hm : fs.main with
  | none => cases force <;> simp
  | some p =>
    obtain ⟨c, t⟩ := p
    cases force with
    | true => simp
    | false =>
      cases hcache : e.mainCache with
      | none => simp
      | some q =>
        obtain ⟨data, mt⟩ := q
        by_cases hgt : t > mt
        · simp [hgt]
        · by_cases hemp : e.rules.isEmpty
          · have := hc rfl data mt c t hcache hm (by omega)
            simp [hgt, hemp, this]
          · simp [hgt, hemp]

theorem scanDirs_exists (dirs : List (Option Dir)) (mts : List Nat)
    (h : (scanDirs dirs mts).2 = true) : anyExists dirs = true := by
  fun_induction scanDirs dirs mts with
  | case1 | case2 => simp [anyExists]
  | case3 => simp_all [anyExists]
  | case4 => cases h

theorem scanDirs_length (dirs : List (Option Dir)) (mts : List Nat) :
    (scanDirs dirs mts).1.length = mts.length := by
  fun_induction scanDirs dirs mts with
  | case4 => rfl
  | case1 _ _ _ _ _ _ hr _ ih | case2 _ _ _ _ _ _ hr _ ih | case3 _ _ _ _ _ hr ih =>
    rw [hr] at ih
    exact congrArg (· + 1) ih

theorem mem_scanDirs (ds : List (Option Dir)) (mts : List Nat) (m : Nat)
    (h : m ∈ (scanDirs ds mts).1) : m ∈ mts ∨ ∃ d, some d ∈ ds ∧ m = d.newest := by
  fun_induction scanDirs ds mts with
  | case4 => exact Or.inl h
  | case1 d ds mt mts r b hr _ ih =>
    rw [hr] at ih
    rcases List.mem_cons.1 h with h | h
    · exact Or.inr ⟨d, List.mem_cons_self .., h⟩
    · exact (ih h).imp (List.mem_cons_of_mem _) fun ⟨d', h1, h2⟩ => ⟨d', List.mem_cons_of_mem _ h1, h2⟩
  | case2 d ds mt mts r b hr _ ih | case3 ds mt mts r b hr ih =>
    rw [hr] at ih
    rcases List.mem_cons.1 h with h | h
    · exact Or.inl (h ▸ List.mem_cons_self ..)
    · exact (ih h).imp (List.mem_cons_of_mem _) fun ⟨d', h1, h2⟩ => ⟨d', List.mem_cons_of_mem _ h1, h2⟩

/-- does this `load_rules` call re-read everything? -/
def trig (e : Enf) (fs : FS) (force : Bool) : Bool :=
  ((e.resolved || fs.main.isSome) && (force || trigCore e fs)) || (scanDirs fs.dirs e.dirMt).2 ||
    (force && anyExists fs.dirs)

/-- **Closed form of `load_rules`.**  The bookkeeping fields are as stated, and either every file
is re-read (`trig`) or both tables are kept. -/
theorem load_spec (en regs) (e : Enf) (fs : FS) (force : Bool) (hc : CacheOK e fs) :
    ∃ mc, (mc = e.mainCache ∨ mc = fs.main ∨ mc = none) ∧
      load en regs e fs force =
        { resolved := e.resolved || fs.main.isSome, mainCache := mc,
          dirMt := (scanDirs fs.dirs e.dirMt).1,
          rules := if trig e fs force then compute en regs fs
                   else mergeDefaults en e.fileRules regs e.rules,
          fileRules := if trig e fs force then filesRules fs else e.fileRules } := by
  unfold load trig compute
  rw [filesStore_eq, filesRules_eq]
  cases hres : (e.resolved || fs.main.isSome)
  · -- never resolved and no main file: only the directories can trigger
    have hmain : fs.main = none :=
      Option.not_isSome_iff_eq_none.1 (Bool.eq_false_iff.1 (Bool.or_eq_false_iff.1 hres).2)
    refine ⟨e.mainCache, Or.inl rfl, ?_⟩
    cases hup : (scanDirs fs.dirs e.dirMt).2
    · cases hex : anyExists fs.dirs
      · simp [hup]
      · cases force <;> simp [hup, applyDirs_eq, mainStore, mainFR, mainLayer, hmain]
    · simp [hup, scanDirs_exists _ _ hup, applyDirs_eq, mainStore, mainFR, mainLayer, hmain]
  · obtain ⟨mc1, hmc1, -, h1⟩ := loadMain_spec { e with resolved := true } fs force fun _ => hc
    rw [show trigCore { e with resolved := true } fs = trigCore e fs from rfl] at h1
    simp only [if_true, h1]
    cases hch : (force || trigCore e fs)
    · -- the main file is unchanged: everything is re-read only if a directory is newer
      have hf : force = false := (Bool.or_eq_false_iff.1 hch).1
      subst hf
      cases hup : (scanDirs fs.dirs e.dirMt).2
      · exact ⟨mc1, hmc1, by simp [hup]⟩
      · obtain ⟨mc2, -, hmc2, h2⟩ := loadMain_spec
          { e with resolved := true, mainCache := mc1, dirMt := (scanDirs fs.dirs e.dirMt).1 } fs true
          (fun h => by cases h)
        exact ⟨mc2, Or.inr (Or.inl (hmc2 rfl)),
          by simp [hup, scanDirs_exists _ _ hup, applyDirs_eq, h2]⟩
    · -- the main file was read afresh
      refine ⟨mc1, hmc1, ?_⟩
      cases hex : anyExists fs.dirs
      · simp [dirLayers_of_not_anyExists _ hex]
      · simp [applyDirs_eq]

theorem Dir.newest_le_iff (d : Dir) (B : Nat) :
    d.newest ≤ B ↔ d.mtime ≤ B ∧ ∀ e ∈ d.entries, e.mtime ≤ B := by
  unfold Dir.newest
  generalize d.mtime = m
  induction d.entries generalizing m with
  | nil => simp
  | cons e es ih => simp [ih, Nat.max_le, and_assoc]

theorem Dir.le_newest (d : Dir) : d.mtime ≤ d.newest := ((d.newest_le_iff _).1 (Nat.le_refl _)).1

theorem Dir.mem_le_newest (d : Dir) (e : Entry) (h : e ∈ d.entries) : e.mtime ≤ d.newest :=
  ((d.newest_le_iff _).1 (Nat.le_refl _)).2 e h

/-- every time in the directory is in `[1, clock]` -/
def DirOK (clock : Nat) (d : Dir) : Prop :=
  (1 ≤ d.mtime ∧ d.mtime ≤ clock) ∧ ∀ e ∈ d.entries, 1 ≤ e.mtime ∧ e.mtime ≤ clock

theorem DirOK.newest_le {B : Nat} {d : Dir} (h : DirOK B d) : d.newest ≤ B :=
  (d.newest_le_iff B).2 ⟨h.1.2, fun e he => (h.2 e he).2⟩

theorem DirOK.mono {c c' : Nat} {d : Dir} (h : DirOK c d) (hc : c ≤ c') : DirOK c' d :=
  ⟨⟨h.1.1, Nat.le_trans h.1.2 hc⟩, fun e he => ⟨(h.2 e he).1, Nat.le_trans (h.2 e he).2 hc⟩⟩

theorem FS.Stamped.mono {fs : FS} {c c' : Nat} (h : FS.Stamped fs c) (hc : c ≤ c') :
    FS.Stamped fs c' :=
  ⟨fun x t hx => ⟨(h.1 x t hx).1, Nat.le_trans (h.1 x t hx).2 hc⟩,
   fun d hd => DirOK.mono (h.2 d hd) hc⟩

/-- every cached mtime is at most the clock of the last load -/
def CacheBound (e : Enf) (cL : Nat) : Prop :=
  (∀ data mt, e.mainCache = some (data, mt) → mt ≤ cL) ∧ (∀ mt ∈ e.dirMt, mt ≤ cL)

/-- main file: unchanged since the last load, or stamped after it, or gone while the path
is resolved; and a path never resolved means there was no main file at the last load -/
def MainRel (e : Enf) (fsL fs : FS) (cL : Nat) : Prop :=
  (fs.main = fsL.main ∨ (∃ c t, fs.main = some (c, t) ∧ t > cL) ∨
    (fs.main = none ∧ e.resolved = true)) ∧
  (e.resolved = false → fsL.main = none)

/-- each directory slot (ghost snapshot on the left, current on the right): unchanged since
the last load, or existing and stamped after it.

In the second case the ghost slot is left arbitrary.  Demanding "`none` in one iff `none` in
the other" would be stronger than anything the proofs use, and it is incompatible with taking
the *empty* file system as the ghost of the initial state (an existing directory faces a
`none` ghost slot there).  What is used is only: a current slot that is `none` is `same`, so
its ghost slot is `none` too (`dirs_same_of_quiet`, `dirs_same_of_none`). -/
inductive DirRel (cL : Nat) : List (Option Dir) → List (Option Dir) → Prop
  | nil : DirRel cL [] []
  | same {d ds ds'} : DirRel cL ds ds' → DirRel cL (d :: ds) (d :: ds')
  | newer {d d' ds ds'} : d.newest > cL → DirRel cL ds ds' → DirRel cL (d' :: ds) (some d :: ds')

theorem DirRel.refl (cL : Nat) : ∀ ds, DirRel cL ds ds
  | [] => .nil
  | _ :: ds => .same (DirRel.refl cL ds)

theorem DirRel.length {cL : Nat} {dsL ds : List (Option Dir)} (h : DirRel cL dsL ds) :
    ds.length = dsL.length := by
  induction h <;> simp_all

/-- changes stamped after `c ≥ cL` on top of changes stamped after `cL` -/
theorem DirRel.trans {cL c : Nat} {ds₁ ds₂ ds₃ : List (Option Dir)} (h₁ : DirRel cL ds₁ ds₂)
    (h₂ : DirRel c ds₂ ds₃) (hc : cL ≤ c) : DirRel cL ds₁ ds₃ := by
  induction h₁ generalizing ds₃ with
  | nil => cases h₂; exact .nil
  | same _ ih =>
    cases h₂ with
    | same h₂ => exact .same (ih h₂)
    | newer hn h₂ => exact .newer (Nat.lt_of_le_of_lt hc hn) (ih h₂)
  | newer hn₁ _ ih =>
    cases h₂ with
    | same h₂ => exact .newer hn₁ (ih h₂)
    | newer hn h₂ => exact .newer (Nat.lt_of_le_of_lt hc hn) (ih h₂)

theorem dirs_same_of_quiet (cL : Nat) {dsL ds : List (Option Dir)} (h : DirRel cL dsL ds)
    (mts : List Nat) (hlen : mts.length = ds.length) (hb : ∀ mt ∈ mts, mt ≤ cL)
    (hq : (scanDirs ds mts).2 = false) : ds = dsL := by
  induction h generalizing mts with
  | nil => rfl
  | @same d ds ds' _ ih =>
    obtain _ | ⟨mt, mts⟩ := mts
    · cases hlen
    · rw [ih mts (by simpa using hlen) (fun m hm => hb m (List.mem_cons_of_mem _ hm))]
      cases d with
      | none => exact hq
      | some d =>
        simp only [scanDirs] at hq
        split at hq
        · cases hq
        · exact hq
  | @newer d d' ds ds' hnew _ ih =>
    obtain _ | ⟨mt, mts⟩ := mts
    · cases hlen
    · have : mt ≤ cL := hb mt (List.mem_cons_self ..)
      simp only [scanDirs] at hq
      split at hq
      · cases hq
      · omega

theorem dirs_same_of_none (cL : Nat) (dsL ds : List (Option Dir)) (h : DirRel cL dsL ds)
    (hex : anyExists ds = false) : ds = dsL := by
  induction h with
  | nil => rfl
  | @same d ds ds' _ ih =>
    cases d with
    | none => rw [ih (by simpa [anyExists] using hex)]
    | some d => simp [anyExists] at hex
  | newer => simp [anyExists] at hex

/-- **The history invariant.**  `fsL` is the (ghost) file system at the last load and `cL`
its clock; before the first load `fsL` is the empty file system and `cL = 0`. -/
def Inv (enforceNew : Bool) (regs : List RuleDefault) (w : World) : Prop :=
  ∃ (fsL : FS) (cL : Nat), cL ≤ w.clock ∧
    FS.Stamped w.fs w.clock ∧
    w.enf.dirMt.length = w.fs.dirs.length ∧ w.fs.dirs.length = fsL.dirs.length ∧
    CacheOK w.enf w.fs ∧ CacheBound w.enf cL ∧
    mergeDefaults enforceNew w.enf.fileRules regs w.enf.rules = compute enforceNew regs fsL ∧
    w.enf.fileRules = filesRules fsL ∧
    MainRel w.enf fsL w.fs cL ∧ DirRel cL fsL.dirs w.fs.dirs

theorem Inv.stamped {en regs w} (h : Inv en regs w) : FS.Stamped w.fs w.clock :=
  let ⟨_, _, _, hst, _⟩ := h
  hst

/-- if a `load` re-reads nothing, nothing has changed since the last load -/
theorem quiet_same (e : Enf) (fs fsL : FS) (cL : Nat) (force : Bool)
    (hlen : e.dirMt.length = fs.dirs.length) (hb : CacheBound e cL)
    (hmain : MainRel e fsL fs cL) (hdirs : DirRel cL fsL.dirs fs.dirs)
    (htrig : trig e fs force = false) : fs = fsL := by
  simp only [trig, Bool.or_eq_false_iff] at htrig
  obtain ⟨⟨hmt, hdt⟩, -⟩ := htrig
  have hd : fs.dirs = fsL.dirs := dirs_same_of_quiet cL hdirs _ hlen hb.2 hdt
  have hm : fs.main = fsL.main := by
    rcases hmain.1 with h | ⟨c, t, hf, hgt⟩ | ⟨hnone, hres⟩
    · exact h
    · -- a main file stamped after the last load is newer than the cache
      exfalso
      cases hcache : e.mainCache with
      | none => simp [trigCore, hf, hcache] at hmt
      | some q =>
        have := hb.1 q.1 q.2 hcache
        simp [trigCore, hf, hcache] at hmt
        omega
    · simp [trigCore, hnone, hres] at hmt
  cases fs; cases fsL; simp_all

/-- what one more load (plain or forced) yields, under the invariant's hypotheses -/
theorem load_correct (en regs) (e : Enf) (fs fsL : FS) (cL : Nat) (force : Bool)
    (hlen : e.dirMt.length = fs.dirs.length) (hc : CacheOK e fs) (hb : CacheBound e cL)
    (hsync : mergeDefaults en e.fileRules regs e.rules = compute en regs fsL)
    (hfr : e.fileRules = filesRules fsL)
    (hmain : MainRel e fsL fs cL) (hdirs : DirRel cL fsL.dirs fs.dirs) :
    (load en regs e fs force).rules = compute en regs fs ∧
    (load en regs e fs force).fileRules = filesRules fs := by
  obtain ⟨mc, -, h⟩ := load_spec en regs e fs force hc
  rw [h]
  cases htrig : trig e fs force with
  | true => exact ⟨rfl, rfl⟩
  | false =>
    cases quiet_same e fs fsL cL force hlen hb hmain hdirs htrig
    exact ⟨hsync, hfr⟩

theorem Inv_load (enforceNew regs) (w : World) (h : Inv enforceNew regs w) (force : Bool) :
    (load enforceNew regs w.enf w.fs force).rules = compute enforceNew regs w.fs ∧
    (load enforceNew regs w.enf w.fs force).fileRules = filesRules w.fs := by
  obtain ⟨fsL, cL, _, _, hlen, _, hc, hb, hsync, hfr, hmain, hdirs⟩ := h
  exact load_correct _ _ _ _ fsL cL force hlen hc hb hsync hfr hmain hdirs

/-- the empty file system: no main file, no configured directory exists -/
def FS.empty (n : Nat) : FS := ⟨none, List.replicate n none⟩

theorem compute_empty (en regs) (n : Nat) :
    compute en regs (FS.empty n) = mergeDefaults en [] regs [] ∧ filesRules (FS.empty n) = [] := by
  have h : dirLayers (List.replicate n none) = [] :=
    dirLayers_of_not_anyExists _ (by simp [anyExists])
  simp [compute, filesRules, filesStore, fileLayers, FS.empty, h]

theorem DirRel_init (ds : List (Option Dir)) (h : ∀ d, some d ∈ ds → d.newest > 0) :
    DirRel 0 (List.replicate ds.length none) ds := by
  induction ds with
  | nil => exact .nil
  | cons od ds ih =>
    have ih' := ih fun d hd => h d (List.mem_cons_of_mem _ hd)
    cases od with
    | none => exact .same ih'
    | some d => exact .newer (h d (List.mem_cons_self ..)) ih'

theorem Inv_init (enforceNew regs) (fs : FS) (clock : Nat) (hst : FS.Stamped fs clock) :
    Inv enforceNew regs ⟨fs, Enf.init fs.dirs.length, clock⟩ := by
  obtain ⟨hce, hfe⟩ := compute_empty enforceNew regs fs.dirs.length
  refine ⟨FS.empty fs.dirs.length, 0, Nat.zero_le _, hst, ?_, ?_, ?_, ?_, hce.symm, hfe.symm, ?_, ?_⟩
  · simp [Enf.init]
  · simp [FS.empty]
  · intro data mt c t h; cases h
  · exact ⟨fun data mt h => (by cases h), fun mt h => Nat.le_of_eq (List.eq_of_mem_replicate h)⟩
  · refine ⟨?_, fun _ => rfl⟩
    cases hm : fs.main with
    | none => exact Or.inl rfl
    | some q => exact Or.inr (Or.inl ⟨q.1, q.2, rfl, (hst.1 q.1 q.2 hm).1⟩)
  · exact DirRel_init _ fun d hd => Nat.lt_of_lt_of_le (hst.2 d hd).1.1 d.le_newest

theorem Inv_step_load (en regs) (w : World) (force : Bool) (h : Inv en regs w) :
    Inv en regs { w with enf := load en regs w.enf w.fs force } := by
  obtain ⟨hr, hf⟩ := Inv_load en regs w h force
  obtain ⟨fsL, cL, hcl, hst, hlen, hlen2, hc, hb, hsync, hfr, hmain, hdirs⟩ := h
  obtain ⟨mc, hmc, heq⟩ := load_spec en regs w.enf w.fs force hc
  generalize load en regs w.enf w.fs force = e' at hr hf heq ⊢
  subst heq
  refine ⟨w.fs, w.clock, Nat.le_refl _, hst, (scanDirs_length _ _).trans hlen, rfl, ?_, ⟨?_, ?_⟩,
    ?_, hf, ⟨Or.inl rfl, fun hres => ?_⟩, DirRel.refl _ _⟩
  · intro data mt c t hmc' hm hle
    rcases hmc with h | h | h <;> subst h
    · exact hc data mt c t hmc' hm hle
    · cases hmc'.symm.trans hm; rfl
    · cases hmc'
  · intro data mt hmc'
    rcases hmc with h | h | h <;> subst h
    · exact Nat.le_trans (hb.1 data mt hmc') hcl
    · exact (hst.1 data mt hmc').2
    · cases hmc'
  · exact fun mt h => (mem_scanDirs _ _ _ h).elim
      (fun h => Nat.le_trans (hb.2 mt h) hcl) fun ⟨d, hd, e⟩ => e ▸ DirOK.newest_le (hst.2 d hd)
  · rw [hr, hf]; exact mergeDefaults_idem _ _ _ _
  · exact Option.not_isSome_iff_eq_none.1 (Bool.eq_false_iff.1 (Bool.or_eq_false_iff.1 hres).2)

/-- What the invariant needs to know of a file operation performed at time `c + 1` on a file
system stamped up to `c`: stamps stay in range, and whatever changed carries the new time. -/
structure FS.Next (c : Nat) (fs fs' : FS) : Prop where
  stamped : FS.Stamped fs' (c + 1)
  main : fs'.main = fs.main ∨ (∃ x, fs'.main = some (x, c + 1)) ∨ fs'.main = none
  dirs : DirRel c fs.dirs fs'.dirs

theorem Inv_next (en regs) (w : World) (h : Inv en regs w) (fs' : FS)
    (hn : FS.Next w.clock w.fs fs') : Inv en regs ⟨fs', w.enf, w.clock + 1⟩ := by
  obtain ⟨fsL, cL, hcl, hst, hlen, hlen2, hc, hb, hsync, hfr, hmain, hdirs⟩ := h
  refine ⟨fsL, cL, Nat.le_succ_of_le hcl, hn.stamped, hlen.trans hn.dirs.length.symm,
    hn.dirs.length.trans hlen2, ?_, hb, hsync, hfr, ⟨?_, hmain.2⟩, hdirs.trans hn.dirs hcl⟩
  · intro data mt c t hmc hm hle
    rcases hn.main with h | ⟨x, h⟩ | h
    · exact hc data mt c t hmc (h ▸ hm) hle
    · cases h.symm.trans hm
      have := hb.1 data mt hmc
      omega
    · cases h.symm.trans hm
  · rcases hn.main with h | ⟨x, h⟩ | h
    · rw [h]; exact hmain.1
    · exact Or.inr (Or.inl ⟨x, _, h, Nat.lt_succ_of_le hcl⟩)
    · rcases Bool.eq_false_or_eq_true w.enf.resolved with hres | hres
      · exact Or.inr (Or.inr ⟨h, hres⟩)
      · exact Or.inl (h.trans (hmain.2 hres).symm)

theorem mem_modifyDir (i : Nat) (f : Dir → Dir) (ds : List (Option Dir)) (d : Dir)
    (h : some d ∈ modifyDir i f ds) : some d ∈ ds ∨ ∃ d0, some d0 ∈ ds ∧ d = f d0 := by
  fun_induction modifyDir i f ds with
  | case1 => cases h
  | case2 od r =>
    rcases List.mem_cons.1 h with h | h
    · cases od with
      | none => cases h
      | some d0 => exact Or.inr ⟨d0, List.mem_cons_self .., Option.some.inj h⟩
    · exact Or.inl (List.mem_cons_of_mem _ h)
  | case3 od r i ih =>
    rcases List.mem_cons.1 h with h | h
    · exact Or.inl (h ▸ List.mem_cons_self ..)
    · rcases ih h with h | ⟨d0, h0, hd⟩
      · exact Or.inl (List.mem_cons_of_mem _ h)
      · exact Or.inr ⟨d0, List.mem_cons_of_mem _ h0, hd⟩

theorem DirRel_modifyDir (c i : Nat) (f : Dir → Dir) (ds : List (Option Dir))
    (hf : ∀ d, f d = d ∨ (f d).newest > c) : DirRel c ds (modifyDir i f ds) := by
  fun_induction modifyDir i f ds with
  | case1 => exact .nil
  | case2 od r =>
    cases od with
    | none => exact .refl _ _
    | some d =>
      rcases hf d with h | h
      · rw [Option.map_some, h]; exact .refl _ _
      · exact .newer h (.refl _ _)
  | case3 od r i ih => exact .same ih

theorem FS.Next.modifyDir {c : Nat} {fs : FS} (hst : FS.Stamped fs c) (i : Nat) (f : Dir → Dir)
    (hok : ∀ d, DirOK c d → DirOK (c + 1) (f d)) (hnew : ∀ d, f d = d ∨ (f d).newest > c) :
    FS.Next c fs { fs with dirs := modifyDir i f fs.dirs } where
  stamped := ⟨(hst.mono (Nat.le_succ c)).1, fun d hd => by
    rcases mem_modifyDir i f _ d hd with h | ⟨d0, h0, rfl⟩
    · exact DirOK.mono (hst.2 d h) (Nat.le_succ _)
    · exact hok d0 (hst.2 d0 h0)⟩
  main := Or.inl rfl
  dirs := DirRel_modifyDir c i f _ hnew

theorem FS.Next.setMain {c : Nat} {fs : FS} (hst : FS.Stamped fs c) (m : Option (Content × Nat))
    (hm : m = fs.main ∨ (∃ x, m = some (x, c + 1)) ∨ m = none) :
    FS.Next c fs { fs with main := m } where
  stamped := by
    refine ⟨fun x t hx => ?_, (hst.mono (Nat.le_succ c)).2⟩
    rcases hm with h | ⟨y, h⟩ | h <;> subst h
    · exact (hst.mono (Nat.le_succ c)).1 x t hx
    · cases hx; exact ⟨Nat.succ_le_succ (Nat.zero_le _), Nat.le_refl _⟩
    · cases hx
  main := hm
  dirs := .refl _ _

theorem mem_setEntry (n : Str) (c : Content) (t : Nat) (es : List Entry) (x : Entry)
    (h : x ∈ setEntry n c t es) : x.mtime = t ∨ x ∈ es := by
  fun_induction setEntry n c t es with
  | case1 => exact Or.inl (by rw [List.mem_singleton.1 h])
  | case2 e r =>
    rcases List.mem_cons.1 h with h | h
    · exact Or.inl (by rw [h])
    · exact Or.inr (List.mem_cons_of_mem _ h)
  | case3 e r _ ih =>
    rcases List.mem_cons.1 h with h | h
    · exact Or.inr (h ▸ List.mem_cons_self ..)
    · exact (ih h).imp id (List.mem_cons_of_mem _)

theorem mem_touchEntry (n : Str) (t : Nat) (es : List Entry) (x : Entry)
    (h : x ∈ touchEntry n t es) : x.mtime = t ∨ x ∈ es := by
  fun_induction touchEntry n t es with
  | case1 => cases h
  | case2 e r =>
    rcases List.mem_cons.1 h with h | h
    · exact Or.inl (by rw [h])
    · exact Or.inr (List.mem_cons_of_mem _ h)
  | case3 e r _ ih =>
    rcases List.mem_cons.1 h with h | h
    · exact Or.inr (h ▸ List.mem_cons_self ..)
    · exact (ih h).imp id (List.mem_cons_of_mem _)

theorem touchEntry_cases (n : Str) (t : Nat) (es : List Entry) :
    touchEntry n t es = es ∨ ∃ x ∈ touchEntry n t es, x.mtime = t := by
  fun_induction touchEntry n t es with
  | case1 => exact Or.inl rfl
  | case2 e r => exact Or.inr ⟨_, List.mem_cons_self .., rfl⟩
  | case3 e r _ ih =>
    rcases ih with h | ⟨x, hx, ht⟩
    · exact Or.inl (by rw [h])
    · exact Or.inr ⟨x, List.mem_cons_of_mem _ hx, ht⟩

theorem DirOK.next {c : Nat} {d : Dir} (hd : DirOK c d) (m : Nat) (es : List Entry)
    (hm : m = c + 1 ∨ m = d.mtime) (hes : ∀ x ∈ es, x.mtime = c + 1 ∨ x ∈ d.entries) :
    DirOK (c + 1) ⟨m, es⟩ := by
  have h1 : 1 ≤ c + 1 ∧ c + 1 ≤ c + 1 := ⟨Nat.succ_le_succ (Nat.zero_le _), Nat.le_refl _⟩
  refine ⟨?_, fun x hx => ?_⟩
  · rcases hm with h | h <;> subst h
    · exact h1
    · exact (hd.mono (Nat.le_succ c)).1
  · rcases hes x hx with h | h
    · rw [h]; exact h1
    · exact (hd.mono (Nat.le_succ c)).2 x h

theorem fsStep_next {c : Nat} {fs : FS} (hst : FS.Stamped fs c) (op : Op) :
    FS.Next c fs (fsStep fs (c + 1) op) := by
  have hdir : ∀ es, (⟨c + 1, es⟩ : Dir).newest > c := fun es => Dir.le_newest ⟨c + 1, es⟩
  cases op with
  | load | loadForce => exact .setMain hst _ (Or.inl rfl)
  | write f x =>
    cases f with
    | main => exact .setMain hst _ (Or.inr (Or.inl ⟨x, rfl⟩))
    | dirFile i n =>
      exact .modifyDir hst i _ (fun d hd => hd.next _ _ (Or.inl rfl) (mem_setEntry _ _ _ _))
        fun d => Or.inr (hdir _)
  | touch f =>
    cases f with
    | main =>
      refine .setMain hst _ ?_
      cases fs.main with
      | none => exact Or.inl rfl
      | some q => exact Or.inr (Or.inl ⟨q.1, rfl⟩)
    | dirFile i n =>
      refine .modifyDir hst i _ (fun d hd => hd.next _ _ (Or.inr rfl) (mem_touchEntry _ _ _)) fun d => ?_
      rcases touchEntry_cases n (c + 1) d.entries with h | ⟨x, hx, ht⟩
      · exact Or.inl (by rw [h])
      · have := Dir.mem_le_newest ⟨d.mtime, touchEntry n (c + 1) d.entries⟩ x hx
        rw [ht] at this
        exact Or.inr this
  | delete f =>
    cases f with
    | main => exact .setMain hst _ (Or.inr (Or.inr rfl))
    | dirFile i n =>
      exact .modifyDir hst i _
        (fun d hd => hd.next _ _ (Or.inl rfl) fun x hx => Or.inr (List.mem_filter.1 hx).1)
        fun d => Or.inr (hdir _)

theorem Inv_step (enforceNew regs) (w : World) (op : Op) (h : Inv enforceNew regs w) :
    Inv enforceNew regs (step enforceNew regs w op) := by
  have hfs := Inv_next _ _ w h _ (fsStep_next h.stamped op)
  cases op with
  | load => exact Inv_step_load _ _ w false h
  | loadForce => exact Inv_step_load _ _ w true h
  | write | touch | delete => exact hfs

/-- The hypothesis is needed: mtimes must be ≥ 1 so that an existing directory is "newer than
0", the initial `dirMt`.  Counterexample without it: no main file and one directory with
`mtime = 0` holding a file `a` with mtime 0 and content `[(x, v)]`: `scanDirs` reports no
update, `fresh` keeps the empty store, but `compute` defines `x`. -/
theorem fresh_rules (enforceNew regs) (fs : FS) {clock : Nat} (hst : FS.Stamped fs clock) :
    (fresh enforceNew regs fs).rules = compute enforceNew regs fs ∧
    (fresh enforceNew regs fs).fileRules = filesRules fs :=
  Inv_load enforceNew regs ⟨fs, Enf.init fs.dirs.length, clock⟩
    (Inv_init enforceNew regs fs clock hst) false

/-- **C10**, one state at a time: under the invariant the next load gives what a brand-new
enforcer computes. -/
theorem Inv.load_eq_fresh {en regs w} (h : Inv en regs w) :
    (load en regs w.enf w.fs false).rules = (fresh en regs w.fs).rules := by
  rw [(Inv_load en regs w h false).1, (fresh_rules en regs w.fs h.stamped).1]

/-- **C12.** Loading again (plain or forced) without a file change does not change the rules. -/
theorem load_idem (enforceNew regs) (w : World) (h : Inv enforceNew regs w) (f1 f2 : Bool) :
    (load enforceNew regs (load enforceNew regs w.enf w.fs f1) w.fs f2).rules
      = (load enforceNew regs w.enf w.fs f1).rules := by
  have h' := Inv_step_load enforceNew regs w f1 h
  rw [(Inv_load enforceNew regs _ h' f2).1, (Inv_load enforceNew regs w h f1).1]

end OsloPolicy
