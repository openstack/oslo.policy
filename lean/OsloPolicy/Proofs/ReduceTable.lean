import OsloPolicy.Model.Parser
import OsloPolicy.Model.Tables
import OsloPolicy.Proofs.Reduce

/-
A *table-driven* reducer: `reduceWith table` interprets any `reducers` table the way
`ParseState.reduce` does, and is proved equal to the hand-written `reduce` of
`Model/Parser.lean` for every table that lists the rows of `Tables.reducers` in some order
(`reduceWith_of_perm`); `Properties/TieParser.lean` instantiates it with the table extracted
from the Python source.

`Proofs.Reduce` is imported for a technical reason only, nothing from it is used:
`fun_cases reduce` here and `fun_induction reduce` there make Lean 4.33 generate auxiliary
constants (`reduce.match_1.congr_eq_1._sparseCasesOn_15` …) in the module that first needs
them, and two modules that generate them independently cannot be imported together.
-/
namespace OsloPolicy

/-- token kind of a stack entry, as the Python `tokens` list holds it -/
def Ent.kind : Ent → String
  | .lp => "("
  | .rp => ")"
  | .kAnd => "and"
  | .kOr => "or"
  | .kNot => "not"
  | .str _ => "string"
  | .chk _ => "check"
  | .andE _ => "and_expr"
  | .orE _ => "or_expr"

/-- the check object a stack entry carries in the Python `values` list (`none` for the
entries whose value is a plain string: brackets, keywords, 'string' tokens) -/
def Ent.val? : Ent → Option Tree
  | .chk t => some t
  | .andE ts => some (.and ts)
  | .orE ts => some (.or ts)
  | _ => none

/-- the reduction methods, by name: given the matched entries (bottom→top order, as
Python passes `*values`), the entries to push instead (bottom→top); `none` for an
unknown method name or ill-typed arguments (wrong arity, a plain string where a check
object is used, `add_check`/`pop_check` on something that is not an And/OrCheck) -/
def applyMethod (name : String) (args : List Ent) : Option (List Ent) :=
  if name = "_wrap_check" then
    match args with
    | [_, c, _] => c.val?.map fun t => [.chk t]
    | _ => none
  else if name = "_make_and_expr" then
    match args with
    | [c1, _, c2] => match c1.val?, c2.val? with
      | some a, some b => some [.andE [a, b]]
      | _, _ => none
    | _ => none
  else if name = "_mix_or_and_expr" then
    match args with
    | [o, _, c] => match o.val?, c.val? with
      | some (.or ts), some t => some [.orE (mixLast ts t)]
      | _, _ => none
    | _ => none
  else if name = "_extend_and_expr" then
    match args with
    | [e, _, c] => match e.val?, c.val? with
      | some (.and ts), some t => some [.andE (ts ++ [t])]
      | _, _ => none
    | _ => none
  else if name = "_make_or_expr" then
    match args with
    | [c1, _, c2] => match c1.val?, c2.val? with
      | some a, some b => some [.orE [a, b]]
      | _, _ => none
    | _ => none
  else if name = "_extend_or_expr" then
    match args with
    | [e, _, c] => match e.val?, c.val? with
      | some (.or ts), some t => some [.orE (ts ++ [t])]
      | _, _ => none
    | _ => none
  else if name = "_make_not_expr" then
    match args with
    | [_, c] => c.val?.map fun t => [.chk (.not t)]
    | _ => none
  else none

/-- does the pattern (bottom→top) match the top of the stack (head = top)?
Literally `len(tokens) >= len(p) and tokens[-len(p):] == p` on the Python `tokens`
list, which is the stack bottom→top. -/
def matchesTop (pattern : List String) (st : List Ent) : Bool :=
  Tables.isSuffix pattern (st.reverse.map Ent.kind)

/-- one table row tried on the stack: the pattern matches, the method applies, and the
replacement shrinks the stack (every real row replaces 2 or 3 entries by 1, see
`stepRow_guard`; the guard makes `reduceWith` total for *every* table) -/
def stepRow (row : List String × String) (st : List Ent) : Option (List Ent) :=
  if matchesTop row.1 st then
    match applyMethod row.2 (st.take row.1.length).reverse with
    | some out =>
      if (out.reverse ++ st.drop row.1.length).length < st.length then
        some (out.reverse ++ st.drop row.1.length)
      else none
    | none => none
  else none

/-- one step of `ParseState.reduce`: first table row (in table order) whose pattern
matches and whose method applies -/
def stepWith (table : List (List String × String)) (st : List Ent) : Option (List Ent) :=
  table.findSome? fun row => stepRow row st

theorem stepRow_lt {row st st'} (h : stepRow row st = some st') : st'.length < st.length := by
  unfold stepRow at h
  repeat' split at h
  all_goals cases h
  assumption

/-- every reduction shrinks the stack: the termination argument of `ParseState.reduce` -/
theorem stepWith_lt {table st st'} (h : stepWith table st = some st') :
    st'.length < st.length := by
  obtain ⟨row, _, hrow⟩ := List.exists_of_findSome?_eq_some h
  exact stepRow_lt hrow

/-- `ParseState.reduce` driven by the table -/
def reduceWith (table : List (List String × String)) (st : List Ent) : List Ent :=
  match _hstep : stepWith table st with
  | some st' => reduceWith table st'
  | none => st
termination_by st.length
decreasing_by exact stepWith_lt _hstep

theorem reduceWith_eq (table st) :
    reduceWith table st = match stepWith table st with
      | some st' => reduceWith table st'
      | none => st := by
  rw [reduceWith]; split <;> simp [*]

/-- every method pushes exactly one entry … -/
theorem applyMethod_length {name args} : ∀ out ∈ applyMethod name args, out.length = 1 := by
  fun_cases applyMethod name args <;> simp

theorem isSuffix_iff {p q : List String} : Tables.isSuffix p q = true ↔ p <:+ q := by
  rw [List.suffix_iff_eq_drop]
  simp only [Tables.isSuffix, Bool.and_eq_true, decide_eq_true_eq, beq_iff_eq]
  constructor
  · rintro ⟨_, h⟩; exact h.symm
  · intro h
    have hl : p.length ≤ q.length := (List.IsSuffix.length_le (List.suffix_iff_eq_drop.2 h))
    exact ⟨hl, h.symm⟩

theorem matchesTop_iff {p : List String} {st : List Ent} :
    matchesTop p st = true ↔ (st.take p.length).map Ent.kind = p.reverse := by
  rw [matchesTop, isSuffix_iff, List.map_reverse, ← List.reverse_prefix, List.reverse_reverse,
    List.prefix_iff_eq_take, List.length_reverse, List.map_take]
  exact eq_comm

theorem matchesTop_eq (p : List String) (st : List Ent) :
    matchesTop p st = ((st.take p.length).map Ent.kind == p.reverse) := by
  rw [Bool.eq_iff_iff, matchesTop_iff, beq_iff_eq]

/-- the shrink guard in `stepRow` never rejects a real row: every method pushes one
entry, so a row whose pattern has length ≥ 2 always shrinks the stack -/
theorem stepRow_guard {row : List String × String} {st out : List Ent}
    (hlen : 2 ≤ row.1.length) (hm : matchesTop row.1 st = true)
    (ha : applyMethod row.2 (st.take row.1.length).reverse = some out) :
    stepRow row st = some (out.reverse ++ st.drop row.1.length) := by
  have h1 := applyMethod_length out ha
  have h2 := congrArg List.length (matchesTop_iff.1 hm)
  simp only [List.length_map, List.length_take, List.length_reverse] at h2
  unfold stepRow
  rw [if_pos hm, ha]
  simp only [List.length_append, List.length_reverse, List.length_drop, h1]
  rw [if_pos (by omega)]

theorem stepWith_nil (st : List Ent) : stepWith [] st = none := rfl

theorem stepWith_cons (row : List String × String) (t st) :
    stepWith (row :: t) st = (stepRow row st).or (stepWith t st) := by
  simp only [stepWith, List.findSome?_cons]
  cases stepRow row st <;> rfl

/-- a row tried on a stack whose top entries are `args` (bottom→top, as many as the pattern is long) -/
theorem stepRow_reverse_append (p : List String) (m : String) (args r : List Ent)
    (hl : args.length = p.length) (h2 : 2 ≤ p.length) :
    stepRow (p, m) (args.reverse ++ r) =
      if args.map Ent.kind = p then (applyMethod m args).map (·.reverse ++ r) else none := by
  have hl' : p.length = args.reverse.length := by rw [List.length_reverse, hl]
  have ht : (args.reverse ++ r).take p.length = args.reverse := hl' ▸ List.take_left
  have hd : (args.reverse ++ r).drop p.length = r := hl' ▸ List.drop_left
  by_cases hk : args.map Ent.kind = p
  · have hm : matchesTop p (args.reverse ++ r) = true := by
      rw [matchesTop_iff, ht, List.map_reverse, hk]
    rw [if_pos hk]
    cases ha : applyMethod m args with
    | some out => rw [stepRow_guard h2 hm (by rw [ht, List.reverse_reverse]; exact ha), hd]; rfl
    | none => simp only [stepRow, hm, ht, List.reverse_reverse, ha]; rfl
  · have hm : ¬ matchesTop p (args.reverse ++ r) = true := by
      rw [matchesTop_iff, ht, List.map_reverse, List.reverse_inj]; exact hk
    rw [if_neg hk, stepRow, if_neg hm]

theorem stepRow3 (k1 k2 k3 m : String) (a b c : Ent) (r : List Ent) :
    stepRow ([k1, k2, k3], m) (c :: b :: a :: r) =
      if a.kind = k1 ∧ b.kind = k2 ∧ c.kind = k3 then
        (applyMethod m [a, b, c]).map (fun out => out.reverse ++ r)
      else none := by
  simpa using stepRow_reverse_append [k1, k2, k3] m [a, b, c] r rfl (by simp)

theorem stepRow2 (k1 k2 m : String) (a b : Ent) (r : List Ent) :
    stepRow ([k1, k2], m) (b :: a :: r) =
      if a.kind = k1 ∧ b.kind = k2 then
        (applyMethod m [a, b]).map (fun out => out.reverse ++ r)
      else none := by
  simpa using stepRow_reverse_append [k1, k2] m [a, b] r rfl (by simp)
theorem stepRow3_inv {k1 k2 k3 m : String} {st st' : List Ent}
    (h : stepRow ([k1, k2, k3], m) st = some st') :
    ∃ a b c r, st = c :: b :: a :: r ∧ a.kind = k1 ∧ b.kind = k2 ∧ c.kind = k3 ∧
      (applyMethod m [a, b, c]).map (fun out => out.reverse ++ r) = some st' := by
  match st with
  | [] | [_] | [_, _] => simp [stepRow, matchesTop_eq] at h
  | c :: b :: a :: r =>
    rw [stepRow3] at h
    split at h
    · next hk => exact ⟨a, b, c, r, rfl, hk.1, hk.2.1, hk.2.2, h⟩
    · cases h

theorem stepRow2_inv {k1 k2 m : String} {st st' : List Ent}
    (h : stepRow ([k1, k2], m) st = some st') :
    ∃ a b r, st = b :: a :: r ∧ a.kind = k1 ∧ b.kind = k2 ∧
      (applyMethod m [a, b]).map (fun out => out.reverse ++ r) = some st' := by
  match st with
  | [] | [_] => simp [stepRow, matchesTop_eq] at h
  | b :: a :: r =>
    rw [stepRow2] at h
    split at h
    · next hk => exact ⟨a, b, r, rfl, hk.1, hk.2, h⟩
    · cases h

theorem stepRow3_second {k1 k2 k3 m : String} {c b : Ent} {r : List Ent} (h : ¬ b.kind = k2) :
    stepRow ([k1, k2, k3], m) (c :: b :: r) = none := by
  cases r with
  | nil => simp [stepRow, matchesTop_eq]
  | cons a r => rw [stepRow3, if_neg (fun h' => h h'.2.1)]

theorem Ent.kind_lp_inv {a : Ent} (h : a.kind = "(") : a = .lp := by cases a <;> simp [Ent.kind] at h ⊢
theorem Ent.kind_rp_inv {a : Ent} (h : a.kind = ")") : a = .rp := by cases a <;> simp [Ent.kind] at h ⊢
theorem Ent.kind_and_inv {a : Ent} (h : a.kind = "and") : a = .kAnd := by cases a <;> simp [Ent.kind] at h ⊢
theorem Ent.kind_or_inv {a : Ent} (h : a.kind = "or") : a = .kOr := by cases a <;> simp [Ent.kind] at h ⊢
theorem Ent.kind_not_inv {a : Ent} (h : a.kind = "not") : a = .kNot := by cases a <;> simp [Ent.kind] at h ⊢
theorem Ent.kind_check_inv {a : Ent} (h : a.kind = "check") : ∃ t, a = .chk t := by
  cases a <;> simp [Ent.kind] at h ⊢
theorem Ent.kind_andE_inv {a : Ent} (h : a.kind = "and_expr") : ∃ t, a = .andE t := by
  cases a <;> simp [Ent.kind] at h ⊢
theorem Ent.kind_orE_inv {a : Ent} (h : a.kind = "or_expr") : ∃ t, a = .orE t := by
  cases a <;> simp [Ent.kind] at h ⊢

/-- soundness of the table: a row of `Tables.reducers` that fires is a reduction of `reduce` -/
theorem reduce_of_stepWith {st st' : List Ent} (h : stepWith Tables.reducers st = some st') :
    reduce st = reduce st' := by
  obtain ⟨row, hmem, hrow⟩ := List.exists_of_findSome?_eq_some h
  simp only [Tables.reducers, List.mem_cons, List.not_mem_nil, or_false] at hmem
  rcases hmem with rfl | rfl | rfl | rfl | rfl | rfl | rfl | rfl | rfl | rfl
  · obtain ⟨a, b, c, r, rfl, ha, hb, hc, hm⟩ := stepRow3_inv hrow
    cases Ent.kind_lp_inv ha; obtain ⟨t, rfl⟩ := Ent.kind_check_inv hb; cases Ent.kind_rp_inv hc
    simp [applyMethod, Ent.val?] at hm; rw [← hm, reduce]
  · obtain ⟨a, b, c, r, rfl, ha, hb, hc, hm⟩ := stepRow3_inv hrow
    cases Ent.kind_lp_inv ha; obtain ⟨t, rfl⟩ := Ent.kind_andE_inv hb; cases Ent.kind_rp_inv hc
    simp [applyMethod, Ent.val?] at hm; rw [← hm, reduce]
  · obtain ⟨a, b, c, r, rfl, ha, hb, hc, hm⟩ := stepRow3_inv hrow
    cases Ent.kind_lp_inv ha; obtain ⟨t, rfl⟩ := Ent.kind_orE_inv hb; cases Ent.kind_rp_inv hc
    simp [applyMethod, Ent.val?] at hm; rw [← hm, reduce]
  · obtain ⟨a, b, c, r, rfl, ha, hb, hc, hm⟩ := stepRow3_inv hrow
    obtain ⟨t, rfl⟩ := Ent.kind_check_inv ha; cases Ent.kind_and_inv hb; obtain ⟨u, rfl⟩ := Ent.kind_check_inv hc
    simp [applyMethod, Ent.val?] at hm; rw [← hm, reduce]
  · obtain ⟨a, b, c, r, rfl, ha, hb, hc, hm⟩ := stepRow3_inv hrow
    obtain ⟨t, rfl⟩ := Ent.kind_orE_inv ha; cases Ent.kind_and_inv hb; obtain ⟨u, rfl⟩ := Ent.kind_check_inv hc
    simp [applyMethod, Ent.val?] at hm; rw [← hm, reduce]
  · obtain ⟨a, b, c, r, rfl, ha, hb, hc, hm⟩ := stepRow3_inv hrow
    obtain ⟨t, rfl⟩ := Ent.kind_andE_inv ha; cases Ent.kind_and_inv hb; obtain ⟨u, rfl⟩ := Ent.kind_check_inv hc
    simp [applyMethod, Ent.val?] at hm; rw [← hm, reduce]
  · obtain ⟨a, b, c, r, rfl, ha, hb, hc, hm⟩ := stepRow3_inv hrow
    obtain ⟨t, rfl⟩ := Ent.kind_check_inv ha; cases Ent.kind_or_inv hb; obtain ⟨u, rfl⟩ := Ent.kind_check_inv hc
    simp [applyMethod, Ent.val?] at hm; rw [← hm, reduce]
  · obtain ⟨a, b, c, r, rfl, ha, hb, hc, hm⟩ := stepRow3_inv hrow
    obtain ⟨t, rfl⟩ := Ent.kind_andE_inv ha; cases Ent.kind_or_inv hb; obtain ⟨u, rfl⟩ := Ent.kind_check_inv hc
    simp [applyMethod, Ent.val?] at hm; rw [← hm, reduce]
  · obtain ⟨a, b, c, r, rfl, ha, hb, hc, hm⟩ := stepRow3_inv hrow
    obtain ⟨t, rfl⟩ := Ent.kind_orE_inv ha; cases Ent.kind_or_inv hb; obtain ⟨u, rfl⟩ := Ent.kind_check_inv hc
    simp [applyMethod, Ent.val?] at hm; rw [← hm, reduce]
  · obtain ⟨a, b, r, rfl, ha, hb, hm⟩ := stepRow2_inv hrow
    cases Ent.kind_not_inv ha; obtain ⟨u, rfl⟩ := Ent.kind_check_inv hb
    simp [applyMethod, Ent.val?] at hm; rw [← hm, reduce]

/-- completeness of the table: on every stack that `reduce` rewrites, some row fires -/
theorem reduce_of_stuck {st : List Ent} (h : stepWith Tables.reducers st = none) : reduce st = st := by
  fun_cases reduce st
  case case11 => rfl
  all_goals
    simp [Tables.reducers, stepWith_cons, stepWith_nil, stepRow3, stepRow2, stepRow3_second, Ent.kind,
      applyMethod, Ent.val?] at h

theorem reduceWith_model : ∀ st, reduceWith Tables.reducers st = reduce st := by
  intro st
  fun_induction reduceWith Tables.reducers st with
  | case1 st st' hs ih => rw [ih, reduce_of_stepWith hs]
  | case2 st hs => rw [reduce_of_stuck hs]

/-! ### The order of the rows is irrelevant -/

/-- rows with the same pattern name the same method (so they are the same row) -/
def methodsAgree (t : List (List String × String)) : Bool :=
  t.all fun a => t.all fun b => !(a.1 == b.1) || a.2 == b.2

theorem stepRow_matches {row st st'} (h : stepRow row st = some st') :
    matchesTop row.1 st = true := by
  unfold stepRow at h
  split at h
  · assumption
  · cases h

/-- at most one row can fire on a given stack -/
theorem stepRow_unique {t : List (List String × String)} (hno : Tables.nonOverlapping t = true)
    (hm : methodsAgree t = true) {a b} (ha : a ∈ t) (hb : b ∈ t) {st u v}
    (hu : stepRow a st = some u) (hv : stepRow b st = some v) : a = b := by
  have sa := isSuffix_iff.1 (stepRow_matches hu)
  have sb := isSuffix_iff.1 (stepRow_matches hv)
  simp only [Tables.nonOverlapping, List.all_eq_true, Bool.or_eq_true, beq_iff_eq,
    Bool.not_eq_true', ← Bool.not_eq_true, isSuffix_iff] at hno
  simp only [methodsAgree, List.all_eq_true, Bool.or_eq_true, beq_iff_eq,
    Bool.not_eq_eq_eq_not] at hm
  have h1 : a.1 = b.1 := by
    rcases Nat.le_total a.1.length b.1.length with hl | hl
    · rcases hno a ha b hb with h | h
      · exact h
      · exact absurd (List.suffix_of_suffix_length_le sa sb hl) h
    · rcases hno b hb a ha with h | h
      · exact h.symm
      · exact absurd (List.suffix_of_suffix_length_le sb sa hl) h
  have h2 : a.2 = b.2 := by
    rcases hm a ha b hb with h | h
    · exact absurd h1 (by simpa using h)
    · exact h
  exact Prod.ext h1 h2

theorem findSome?_perm_unique {α β} {f : α → Option β} {l₁ l₂ : List α} (hp : l₁.Perm l₂)
    (huniq : ∀ a ∈ l₁, ∀ b ∈ l₁, ∀ u v, f a = some u → f b = some v → u = v) :
    l₁.findSome? f = l₂.findSome? f := by
  cases h₁ : l₁.findSome? f with
  | none =>
    rw [List.findSome?_eq_none_iff] at h₁
    exact (List.findSome?_eq_none_iff.2 fun x hx => h₁ x (hp.mem_iff.2 hx)).symm
  | some u =>
    obtain ⟨a, ha, hfa⟩ := List.exists_of_findSome?_eq_some h₁
    cases h₂ : l₂.findSome? f with
    | none =>
      rw [List.findSome?_eq_none_iff] at h₂
      rw [h₂ a (hp.mem_iff.1 ha)] at hfa; cases hfa
    | some v =>
      obtain ⟨b, hb, hfb⟩ := List.exists_of_findSome?_eq_some h₂
      rw [huniq a ha b (hp.mem_iff.2 hb) u v hfa hfb]

/-- order of the rows is irrelevant when no pattern is a proper suffix of another and
rows with equal patterns agree on the method: at most one row can match a given stack.

`nonOverlapping` alone is NOT enough (it accepts two rows with the *same* pattern):
see `stepWith_perm_needs_methodsAgree` below. -/
theorem stepWith_perm (t₁ t₂ : List (List String × String)) (hp : t₁.Perm t₂)
    (hno : Tables.nonOverlapping t₁ = true) (hm : methodsAgree t₁ = true) (st : List Ent) :
    stepWith t₁ st = stepWith t₂ st := by
  apply findSome?_perm_unique hp
  intro a ha b hb u v hu hv
  cases stepRow_unique hno hm ha hb hu hv
  rw [hu] at hv; cases hv; rfl

/-- Counterexample to `stepWith_perm` without `methodsAgree`: two rows with the same
pattern and different methods are `nonOverlapping`, yet swapping them changes the result
(`a and b` reduces to an and-expression or to an or-expression). -/
theorem stepWith_perm_needs_methodsAgree :
    ∃ t₁ t₂ st, t₁.Perm t₂ ∧ Tables.nonOverlapping t₁ = true ∧ stepWith t₁ st ≠ stepWith t₂ st :=
  ⟨[(["check", "and", "check"], "_make_and_expr"), (["check", "and", "check"], "_make_or_expr")],
   [(["check", "and", "check"], "_make_or_expr"), (["check", "and", "check"], "_make_and_expr")],
   [.chk .tt, .kAnd, .chk .ff], List.Perm.swap _ _ _, by decide,
   by simp [stepWith_cons, stepWith_nil, stepRow3, Ent.kind, applyMethod, Ent.val?]⟩

theorem reduceWith_congr {t₁ t₂ : List (List String × String)}
    (h : ∀ st, stepWith t₁ st = stepWith t₂ st) : ∀ st, reduceWith t₁ st = reduceWith t₂ st := by
  intro st
  fun_induction reduceWith t₁ st with
  | case1 st st' hs ih => rw [ih, reduceWith_eq t₂ st, ← h, hs]
  | case2 st hs => rw [reduceWith_eq t₂ st, ← h, hs]

/-- Any table with the rows of `Tables.reducers`, in whatever order, drives exactly the modelled
parser, provided no pattern is a suffix of another and equal patterns have equal methods. -/
theorem reduceWith_of_perm {t : List (List String × String)} (hp : t.isPerm Tables.reducers = true)
    (hno : Tables.nonOverlapping t = true) (hm : methodsAgree t = true) (st : List Ent) :
    reduceWith t st = reduce st := by
  rw [reduceWith_congr (stepWith_perm _ _ (List.isPerm_iff.1 hp) hno hm) st, reduceWith_model]

end OsloPolicy
