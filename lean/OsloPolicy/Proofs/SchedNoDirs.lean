import OsloPolicy.Proofs.SchedSafe
/-
C20, a second positive result for the in-place model of `Model/Sched.lean`.

`C20.inplace_violates` needs policy-directory content: the torn store that thread B reads there
is "main file without the policy.d overrides".  Here: if the policy directories define NOTHING
(`sc.dirsNew = []`), then on every "A runs `k` steps, B runs its whole `enforce`, A finishes"
schedule (`oneSwitch`), for every `k`, both decisions are those of the complete old or the complete
new policy.  The reason: the only torn stores B can meet are `mainNew` plus a prefix of the
registered defaults (`Late`), and B's own default merge completes any of them to the complete new
policy (`foldl_merged`); A's remaining steps are then no-ops (`mergeIdem`).
-/

namespace OsloPolicy.Sched

theorem compute_nil (sc : Scenario) (main : Content) :
    compute sc main [] = sc.regs.foldl mergeF main := compute_eq sc main []

section late
variable (sc : Scenario)

/-- Thread A once the store has been overwritten by the main file (or found current): both stale
flags and `updd` are clear, and the store is some `R₀` that completes to the new policy, with the
first `pc - 5` registered defaults merged in; a decision, if taken, is the new policy's. -/
structure Late (s : Shared) (a : Local) : Prop where
  flags : s.mainStale = false ∧ s.dirStale = false ∧ a.updd = false
  pc : 2 ≤ a.pc
  store : ∃ R₀, sc.regs.foldl mergeF R₀ = compute sc sc.mainNew sc.dirsNew ∧
    s.rules = merged sc R₀ (a.pc - 5)
  out : ∀ b, a.out = some b → b = decideOn sc (compute sc sc.mainNew sc.dirsNew)

variable {sc}

theorem late_enter (R₀ : Content) (h₀ : sc.regs.foldl mergeF R₀ = compute sc sc.mainNew sc.dirsNew)
    (c : Bool) : Late sc ⟨R₀, false, false⟩ ⟨2, c, false, none⟩ :=
  ⟨⟨rfl, rfl, rfl⟩, Nat.le_refl _, ⟨R₀, h₀, rfl⟩, nofun⟩

/-- A fresh thread's complete `enforce` on a `Late` store leaves the complete new policy ... -/
theorem late_reload (s : Shared) (a : Local) (h : Late sc s a) :
    reload sc s = compute sc sc.mainNew sc.dirsNew := by
  obtain ⟨R₀, h₀, hR⟩ := h.store
  simp only [reload, h.flags.1, h.flags.2.1, hR, foldl_merged, h₀, ite_self]

/-- ... and that store, with A where it stood, is `Late` again. -/
theorem late_settled (s : Shared) (a : Local) (h : Late sc s a) :
    Late sc ⟨compute sc sc.mainNew sc.dirsNew, false, false⟩ a :=
  ⟨⟨rfl, rfl, h.flags.2.2⟩, h.pc, ⟨_, compute_merge_idem .., (mergeIdem _ _ fun e he =>
    compute_has_regs sc _ _ e (List.mem_of_mem_take he)).symm⟩, h.out⟩

variable (hd : sc.dirsNew = [])
include hd

theorem late_step (s : Shared) (a : Local) (h : Late sc s a) :
    Late sc (step sc s a).1 (step sc s a).2 := by
  obtain ⟨R, m, d⟩ := s
  obtain ⟨pc, c, u, o⟩ := a
  obtain ⟨⟨rfl, rfl, rfl⟩, hpc, ⟨R₀, h₀, hR⟩, ho⟩ := h
  simp only at hpc hR ho
  match pc with
  | 2 => exact ⟨⟨rfl, rfl, rfl⟩, (by decide : 2 ≤ 3), ⟨R₀, h₀, hR⟩, ho⟩
  | 3 => cases c <;> exact ⟨⟨rfl, rfl, rfl⟩, by simp [step], ⟨R₀, h₀, hR⟩, ho⟩
  | 4 => exact ⟨⟨rfl, rfl, rfl⟩, (by decide : 2 ≤ 5), ⟨R₀, h₀, by rw [step4, hd]; exact hR⟩, ho⟩
  | n+5 =>
    cases h : sc.regs[n]? with
    | some e =>
      rw [step_merge _ _ _ _ _ _ _ _ _ h]
      exact ⟨⟨rfl, rfl, rfl⟩, Nat.le_add_left .., ⟨R₀, h₀, by rw [hR]; exact (merged_succ sc R₀ h).symm⟩, ho⟩
    | none =>
      rw [step_decide _ _ _ _ _ _ _ _ h]
      refine ⟨⟨rfl, rfl, rfl⟩, hpc, ⟨R₀, h₀, hR⟩, fun b hb => ?_⟩
      rw [← Option.some.inj hb, hR, merged_full sc R₀ (by simpa using h), h₀]

theorem late_out (s : Shared) (a : Local) (h : Late sc s a) (k : Nat) (hk : sc.regs.length + 4 ≤ k) :
    (solo sc k (s, a)).2.out = some (decideOn sc (compute sc sc.mainNew sc.dirsNew)) := by
  have hl := solo_inv sc (late_step hd) k s a h
  have ht := solo_terminates sc k s a (by have := h.pc; omega) (by omega)
  cases ho : (solo sc k (s, a)).2.out with
  | none => simp [done, ho] at ht
  | some b => rw [hl.out b ho]

/-- B runs its whole `enforce` while A is in a `Late` state, then A finishes: both decide on the new policy. -/
theorem late_safe (s : Shared) (a : Local) (h : Late sc s a) :
    let q := solo sc (span sc) (s, {})
    ((solo sc (span sc) (q.1, a)).2.out, q.2.out) =
      (some (decideOn sc (compute sc sc.mainNew sc.dirsNew)),
       some (decideOn sc (compute sc sc.mainNew sc.dirsNew))) := by
  have hq := solo_enforce sc s _ (Nat.le_refl _)
  rw [late_reload s a h] at hq
  exact Prod.ext (hq.1 ▸ late_out hd _ a (late_settled s a h) _ (by unfold span; omega)) hq.2

/-- **The precise form**: A always decides on the new policy; so does B, except that between A's refresh of
the cache entry and A's overwrite of the store (`k = 1`) it still sees the complete old one. -/
theorem no_dirs_one_switch (mainOld : Content) (ms : Bool) (hm : ms = false → mainOld = sc.mainNew) (k : Nat) :
    ∃ X, (X = compute sc mainOld [] ∨ X = compute sc sc.mainNew sc.dirsNew) ∧
      oneSwitch sc ⟨compute sc mainOld [], ms, false⟩ k =
        (some (decideOn sc (compute sc sc.mainNew sc.dirsNew)), some (decideOn sc X)) := by
  have hnew : sc.regs.foldl mergeF sc.mainNew = compute sc sc.mainNew sc.dirsNew := by rw [hd]; rfl
  rw [oneSwitch_eq]
  match k with
  | 0 =>
    -- A has not started: B runs alone, then A runs alone
    have hB := solo_enforce sc ⟨compute sc mainOld [], ms, false⟩ _ (Nat.le_refl _)
    rw [reload_truthful sc _ _ _ _ hm (fun _ => hd.symm)] at hB
    have hA := solo_enforce sc ⟨compute sc sc.mainNew sc.dirsNew, false, false⟩ _ (Nat.le_refl _)
    rw [reload_truthful sc _ _ _ _ (fun _ => rfl) (fun _ => rfl)] at hA
    exact ⟨_, Or.inr rfl, by simp only [solo, hB.1, hB.2, hA.2]⟩
  | k+1 =>
    rw [Nat.add_comm, solo_add]
    cases hA : ms || (compute sc mainOld []).isEmpty with
    | true =>
      -- the main file is stale (or the store is empty): A clears the flag, then overwrites the store
      have e1 : solo sc 1 (⟨compute sc mainOld [], ms, false⟩, {}) =
          (⟨compute sc mainOld [], false, false⟩, ⟨1, true, false, none⟩) := by simp [solo, done, step, hA]
      rw [e1]
      match k with
      | 0 =>
        -- B sees the complete old store with the stale flag already cleared
        have hB := solo_enforce sc ⟨compute sc mainOld [], false, false⟩ _ (Nat.le_refl _)
        refine ⟨reload sc ⟨compute sc mainOld [], false, false⟩, ?_, ?_⟩
        · unfold reload; split
          · exact Or.inr rfl
          · exact Or.inl (compute_merge_idem ..)
        · simp only [solo, hB.1, hB.2]
          rw [solo_split sc 1 (by unfold span; omega)]
          exact Prod.ext (late_out hd _ _ (late_enter sc.mainNew hnew true) _ (by unfold span; omega)) rfl
      | k+1 =>
        rw [Nat.add_comm, solo_add]
        exact ⟨_, Or.inr rfl, late_safe hd _ _ (solo_inv sc (late_step hd) k _ _ (late_enter sc.mainNew hnew true))⟩
    | false =>
      -- nothing is stale and the store is non-empty: old = new, the store never changes
      obtain ⟨rfl, hR⟩ : ms = false ∧ (compute sc mainOld []).isEmpty = false := by simpa using hA
      obtain rfl := hm rfl
      have e1 : solo sc 1 (⟨compute sc sc.mainNew [], false, false⟩, {}) =
          (⟨compute sc sc.mainNew [], false, false⟩, ⟨2, false, false, none⟩) := by simp [solo, done, step, hR]
      rw [e1]
      exact ⟨_, Or.inr rfl, late_safe hd _ _ (solo_inv sc (late_step hd) k _ _
        (late_enter _ (by rw [compute_merge_idem, hd]) false))⟩

end late

/-- With nothing in the policy directories, a main-file edit reloaded by thread A while thread B runs a complete
`enforce` at ANY point of A's reload is safe: both decisions are those of the complete old or the complete new policy. -/
theorem no_dirs_one_switch_safe (sc : Scenario) (mainOld : Content) (ms : Bool)
    (hd : sc.dirsNew = []) (hm : ms = false → mainOld = sc.mainNew) (k : Nat) :
    let r := oneSwitch sc ⟨compute sc mainOld [], ms, false⟩ k
    (∃ d, r.1 = some d ∧ (d = decideOn sc (compute sc mainOld []) ∨ d = decideOn sc (compute sc sc.mainNew []))) ∧
    (∃ d, r.2 = some d ∧ (d = decideOn sc (compute sc mainOld []) ∨ d = decideOn sc (compute sc sc.mainNew []))) := by
  obtain ⟨X, hX, h⟩ := no_dirs_one_switch hd mainOld ms hm k
  rw [hd] at h hX
  rw [h]
  exact ⟨⟨_, rfl, Or.inr rfl⟩, ⟨_, rfl, hX.imp (congrArg _) (congrArg _)⟩⟩

/-- registered defaults `p:!` (name 0, NOT defined by the main file) and `x:@` (name 1); the main
file defines `x` (edited allow → deny) and a permissive default rule (name 9, allow); no policy
directory content; the request asks for `p` -/
def noDirs : Scenario :=
  { mainNew := [(1, false), (9, true)], dirsNew := [], regs := [(0, false), (1, true)],
    defaultRule := some 9, query := 0 }
def noDirsMainOld : Content := [(1, true), (9, true)]

/-- the theorem instantiated in the middle of A's reload (`k = 3`: cache entry refreshed, store
overwritten by the main file — registered default `p` missing —, directory scan done) -/
example :
    let r := oneSwitch noDirs ⟨compute noDirs noDirsMainOld [], true, false⟩ 3
    (∃ d, r.1 = some d ∧ (d = decideOn noDirs (compute noDirs noDirsMainOld []) ∨
        d = decideOn noDirs (compute noDirs noDirs.mainNew []))) ∧
    (∃ d, r.2 = some d ∧ (d = decideOn noDirs (compute noDirs noDirsMainOld []) ∨
        d = decideOn noDirs (compute noDirs noDirs.mainNew []))) :=
  no_dirs_one_switch_safe noDirs noDirsMainOld true rfl (fun h => by cases h) 3

/-- concretely: at that point the store is torn (deciding on it directly would ALLOW `p` through the
permissive default rule), yet both threads deny, as the complete old and new policies do -/
example :
    (run noDirs [true, true, true] (⟨compute noDirs noDirsMainOld [], true, false⟩, {}, {})).1.rules
        = noDirs.mainNew ∧
    decideOn noDirs noDirs.mainNew = true ∧
    decideOn noDirs (compute noDirs noDirsMainOld []) = false ∧
    decideOn noDirs (compute noDirs noDirs.mainNew []) = false ∧
    oneSwitch noDirs ⟨compute noDirs noDirsMainOld [], true, false⟩ 3 = (some false, some false) := by
  decide


end OsloPolicy.Sched
