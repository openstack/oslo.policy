import OsloPolicy.Model.Enforce
import OsloPolicy.Proofs.Assoc
/-
`enforce` in closed form (`enforce_obj`): on mapping credentials it is the scope gate, then
`finish` of what the rule store decides (`verdict`).  C03, C06, C07, C08, C14 and C19 are read
off this equation; the vocabulary (`scopeRejects`, `scopeOf`, `nameOf`, `raised`) carries the
name of C07, whose statements introduced it.
-/
namespace OsloPolicy.C07
open OsloPolicy

theorem mirrorSystemScope_obj (kvs tx) :
    mirrorSystemScope (.obj kvs tx) =
      match afind systemScope_ kvs with
      | some v => if v.truthy then .obj (ainsert system_ v kvs) tx else .obj kvs tx
      | none => .obj kvs tx := rfl

theorem mirrorSystemScope_eq_self (kvs tx)
    (h : ∀ v, afind systemScope_ kvs = some v → v.truthy = true → afind system_ kvs = some v) :
    mirrorSystemScope (.obj kvs tx) = .obj kvs tx := by
  rw [mirrorSystemScope_obj]
  cases hs : afind systemScope_ kvs with
  | none => rfl
  | some v =>
    simp only []
    split
    · next hv => rw [ainsert_same _ _ _ (h v hs hv)]
    · rfl

theorem enforceScope_eq (en : Bool) (creds : JVal) (types : List Str) (d : Bool) :
    enforceScope en creds types d =
      if en && !types.contains (tokenScope creds) then (if d then .raise .invalidScope else .ret false)
      else .ret true := by
  unfold enforceScope
  cases types.contains (tokenScope creds) <;> cases en <;> rfl

theorem finish_off (n : Str) (o : Outcome) (c : Bool) : finish ⟨false, c⟩ n o = o := by
  cases o with
  | ret b => cases b <;> rfl
  | raise x => rfl

theorem finish_on (n : Str) (o : Outcome) (c : Bool) :
    finish ⟨true, c⟩ n o =
      match o with
      | .ret false => if c then .raise .custom else .raise (.notAuthorized n)
      | o => o := by
  cases o with
  | ret b => cases b <;> rfl
  | raise x => rfl

/-- The outcome with `do_raise` on, as a function of the outcome with `do_raise` off —
for a policy name.  `ret false` becomes the caller's exception (or `PolicyNotAuthorized`
naming the policy), or `InvalidScope` when the denial came from the scope gate. -/
def raised (c : Bool) (n : Str) (scopeMismatch : Bool) : Outcome → Outcome
  | .ret false => if scopeMismatch then .raise .invalidScope
                  else if c then .raise .custom else .raise (.notAuthorized n)
  | o => o

/-- Whether the scope gate rejects this request (scope types declared, enforcement on, token scope not among them). -/
def scopeRejects (e : EnfView) (creds : JVal) (st : Option (List Str)) : Bool :=
  match st with
  | some (ty :: tys) => e.enforceScopeOpt && !((ty :: tys).contains (tokenScope (mirrorSystemScope creds)))
  | _ => false

theorem gate_eq (e : EnfView) (creds : JVal) (ty : Str) (tys : List Str) (d : Bool) :
    enforceScope e.enforceScopeOpt (mirrorSystemScope creds) (ty :: tys) d =
      if scopeRejects e creds (some (ty :: tys)) then (if d then .raise .invalidScope else .ret false)
      else .ret true :=
  enforceScope_eq ..

/-- scope types that apply to an `enforce` call -/
def scopeOf (e : EnfView) : RuleArg → Option (List Str)
  | .check _ st => st
  | .name n =>
    if e.rules.entries.isEmpty then none
    else match e.rules.lookup n with
      | none => none
      | some _ => (findRegistered e.registered n).bind (·.scopeTypes)

def nameOf : RuleArg → Str
  | .check t _ => t.print
  | .name n => n

/-- What the rule store decides, before the scope gate and `do_raise`: a check object is
evaluated as it is; a name is looked up (`rules[name]`, default-rule fallback included), and an
empty store or a name without definition denies. -/
def verdict (e : EnfView) (leafOf : JVal → Option Str → Str → Str → Outcome) (creds : JVal) :
    RuleArg → Outcome
  | .check t _ => eval e.rules (leafOf creds none) e.fuel t
  | .name n =>
    if e.rules.entries.isEmpty then .ret false
    else match e.rules.lookup n with
      | none => .ret false
      | some t => eval e.rules (leafOf creds (some n)) e.fuel t

theorem verdict_name (e : EnfView) (leafOf) (creds : JVal) (n : Str) (t : Tree)
    (hne : e.rules.entries.isEmpty = false) (hl : e.rules.lookup n = some t) :
    verdict e leafOf creds (.name n) = eval e.rules (leafOf creds (some n)) e.fuel t := by
  simp only [verdict, hne, hl, Bool.false_eq_true, ↓reduceIte]

/-- **`enforce` on mapping credentials**: the scope gate first — a rejection is `InvalidScope`
or a bare `False`, never the caller's exception — then the store's verdict on the credentials
with `system_scope` mirrored, through `finish`. -/
theorem enforce_obj (e : EnfView) (leafOf) (rule : RuleArg) (kvs tx) (rs : RaiseSpec) :
    enforce e leafOf rule (.obj kvs tx) rs =
      if scopeRejects e (.obj kvs tx) (scopeOf e rule) then
        (if rs.doRaise then .raise .invalidScope else .ret false)
      else finish rs (nameOf rule) (verdict e leafOf (mirrorSystemScope (.obj kvs tx)) rule) := by
  cases rule with
  | check t st =>
    show _ = if scopeRejects e (.obj kvs tx) st then _ else
      finish rs t.print (eval e.rules (leafOf (mirrorSystemScope (.obj kvs tx)) none) e.fuel t)
    simp only [enforce]
    match st with
    | none | some [] => rfl
    | some (ty :: tys) =>
      simp only [gate_eq]
      cases scopeRejects e (.obj kvs tx) (some (ty :: tys)) <;> cases rs.doRaise <;> rfl
  | name n =>
    simp only [enforce, scopeOf, nameOf, verdict]
    split
    · rfl
    · cases e.rules.lookup n with
      | none => rfl
      | some t =>
        cases findRegistered e.registered n with
        | none => rfl
        | some r =>
          obtain ⟨_, st⟩ := r
          show _ = if scopeRejects e (.obj kvs tx) st then _ else _
          match st with
          | none | some [] => rfl
          | some (ty :: tys) =>
            simp only [gate_eq]
            cases scopeRejects e (.obj kvs tx) (some (ty :: tys)) <;> cases rs.doRaise <;> rfl

theorem scopeOf_name (e : EnfView) (n : Str) (t : Tree)
    (hne : e.rules.entries.isEmpty = false) (hl : e.rules.lookup n = some t) :
    scopeOf e (.name n) = (findRegistered e.registered n).bind (·.scopeTypes) := by
  simp only [scopeOf, hne, hl, Bool.false_eq_true, ↓reduceIte]

end OsloPolicy.C07
