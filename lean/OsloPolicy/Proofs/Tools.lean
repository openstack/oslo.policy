import OsloPolicy.Model.Tools
import OsloPolicy.Spec.Layers
import OsloPolicy.Proofs.Assoc
import OsloPolicy.Proofs.RoundTrip
/-
C18: the tools that rewrite policy files (`oslopolicy-policy-upgrade`,
`oslopolicy-convert-json-to-yaml`, `oslopolicy-policy-generator`,
`oslopolicy-list-redundant`), at the level of the mapping name ↦ rule value.

As in `Proofs/Assoc.lean`, nothing here assumes that the keys of an association list are
unique unless a statement says so: everything is about `afind` (first match).
-/
namespace OsloPolicy

theorem afind_aremove {α} (k n : Str) (l : List (Str × α)) :
    afind n (aremove k l) = if k = n then none else afind n l := by
  fun_induction aremove k l with
  | case1 => simp [afind]
  | case2 v r ih => rw [ih, afind]; split <;> simp [*]
  | case3 k' v r h ih =>
    simp only [afind, ih]
    split
    · next h' => rw [if_neg (fun e => h (h'.trans e.symm))]
    · rfl

theorem afind_aremove_self {α} (k : Str) (l : List (Str × α)) : afind k (aremove k l) = none := by
  simp [afind_aremove]

theorem afind_aremove_other {α} (k k' : Str) (l : List (Str × α)) (h : k' ≠ k) :
    afind k' (aremove k l) = afind k' l := by
  simp [afind_aremove, h.symm]

/-- What iteration `d` of the loop writes under the name `n`, if anything: `some (some v)` binds `n` to `v`,
`some none` removes the binding. It looks at the file as it was, never at the accumulator. -/
def stepWrites (file : Content) (n : Str) (d : RuleDefault) : Option (Option JVal) :=
  match d.deprecated with
  | none => none
  | some (o, _) =>
    match afind o file with
    | none => none
    | some v =>
      if isAliasTo d.name v = false ∧ d.name = n then some (some v)
      else if o = n then some none else none

theorem afind_upgradeStep (file acc : Content) (d : RuleDefault) (n : Str) :
    afind n (upgradeStep file acc d) = (stepWrites file n d).getD (afind n acc) := by
  unfold upgradeStep stepWrites
  cases d.deprecated with
  | none => rfl
  | some p =>
    obtain ⟨o, os⟩ := p
    simp only
    cases afind o file with
    | none => rfl
    | some v =>
      cases ha : isAliasTo d.name v <;>
        simp [ha, afind_ainsert, afind_aremove, apply_ite (Option.getD · (afind n acc))]

/-- A fold whose every step leaves the state alone or overwrites it with `c` ends in `c`, provided some step
writes or the state was `c` to begin with. -/
theorem foldl_getD_const {α β} {f : α → Option β} {c : β} (l : List α) (b : β)
    (hf : ∀ a ∈ l, f a = none ∨ f a = some c) (h : (∃ a ∈ l, f a = some c) ∨ b = c) :
    l.foldl (fun b a => (f a).getD b) b = c := by
  induction l generalizing b with
  | nil => simpa using h
  | cons x r ih =>
    obtain ⟨hx, hr⟩ := List.forall_mem_cons.1 hf
    refine ih ((f x).getD b) hr ?_
    rcases h with ⟨a, ha, hac⟩ | rfl
    · rcases List.mem_cons.1 ha with rfl | ha
      · exact .inr (by rw [hac]; rfl)
      · exact .inl ⟨a, ha, hac⟩
    · exact .inr (by rcases hx with hx | hx <;> rw [hx] <;> rfl)

/-- the upgrade acts on each name separately -/
theorem afind_toolUpgrade (file : Content) (regs : List RuleDefault) (n : Str) :
    afind n (toolUpgrade file regs) = regs.foldl (fun b d => (stepWrites file n d).getD b) (afind n file) :=
  (List.foldl_hom (afind n) fun acc d => (afind_upgradeStep file acc d n).symm).symm

theorem afind_toolUpgrade_const {file : Content} {regs : List RuleDefault} {n : Str} {c : Option JVal}
    (hf : ∀ d ∈ regs, stepWrites file n d = none ∨ stepWrites file n d = some c)
    (h : (∃ d ∈ regs, stepWrites file n d = some c) ∨ afind n file = c) :
    afind n (toolUpgrade file regs) = c := by
  rw [afind_toolUpgrade]
  exact foldl_getD_const regs _ hf h

/-- an iteration whose new name is not `n` writes nothing under `n`, or removes `n` when that is the old name and
the file defines it -/
theorem stepWrites_of_name_ne {file : Content} {n : Str} {d : RuleDefault} (h : d.name ≠ n) :
    stepWrites file n d = match d.deprecated with
      | some (o, _) => if o = n ∧ (afind o file).isSome then some none else none
      | none => none := by
  unfold stepWrites
  cases d.deprecated with
  | none => rfl
  | some p =>
    obtain ⟨o, os⟩ := p
    simp only
    cases afind o file <;> simp [h]

/-- an iteration that renames neither to `n` nor from `n` leaves `n` alone -/
theorem stepWrites_eq_none {file : Content} {n : Str} {d : RuleDefault} (h1 : d.name ≠ n)
    (h2 : ∀ o os, d.deprecated = some (o, os) → o ≠ n) : stepWrites file n d = none := by
  rw [stepWrites_of_name_ne h1]
  split
  · next o os hdep => simp [h2 o os hdep]
  · rfl

/-- a deprecated name that is nobody's new name is absent from the upgraded file: popped if the file had it,
and otherwise never there -/
theorem upgrade_old_name {file : Content} {regs : List RuleDefault} {d : RuleDefault} {o : Str} {os : JVal}
    (hn : ∀ d' ∈ regs, d'.name ≠ o) (hd : d ∈ regs) (hdep : d.deprecated = some (o, os)) :
    afind o (toolUpgrade file regs) = none := by
  refine afind_toolUpgrade_const (fun d' hd' => ?_) ?_
  · rw [stepWrites_of_name_ne (hn d' hd')]
    split
    · split <;> simp
    · exact .inl rfl
  · cases hf : afind o file with
    | none => exact .inr rfl
    | some v => exact .inl ⟨d, hd, by simp [stepWrites_of_name_ne (hn d hd), hdep, hf]⟩

/-- **What the upgraded file holds under a registered (new) name**: under (U) and (X2) no other iteration
touches it, so it is what `d`'s own iteration writes.  `_upgrade_policies` does not test `o ≠ d.name`: under
a same-name deprecation it pops `d.name` and re-inserts it *unless the value is the alias `rule:<d.name>`*, so
a self-referential file rule `"a": "rule:a"` is deleted (`upgrade_needs_noSelfAlias`). -/
theorem upgrade_new_name (file : Content) (regs : List RuleDefault)
    (hU : ∀ d₁ ∈ regs, ∀ d₂ ∈ regs, d₁.name = d₂.name → d₁ = d₂)
    (hX2 : ∀ d ∈ regs, ∀ o os, d.deprecated = some (o, os) → o ≠ d.name → ∀ d' ∈ regs, d'.name ≠ o)
    (d : RuleDefault) (hd : d ∈ regs) :
    afind d.name (toolUpgrade file regs) = (stepWrites file d.name d).getD (afind d.name file) := by
  have hother : ∀ x ∈ regs, x ≠ d → stepWrites file d.name x = none := fun x hx hxd =>
    have hn : x.name ≠ d.name := fun e => hxd (hU x hx d hd e)
    stepWrites_eq_none hn fun o os hdep e => hX2 x hx o os hdep (e ▸ hn.symm) d hd e.symm
  cases h : stepWrites file d.name d with
  | none =>
    refine afind_toolUpgrade_const (fun x hx => .inl ?_) (.inr rfl)
    by_cases hxd : x = d
    · exact hxd ▸ h
    · exact hother x hx hxd
  | some c =>
    refine afind_toolUpgrade_const (fun x hx => ?_) (.inl ⟨d, hd, h⟩)
    by_cases hxd : x = d
    · exact .inr (hxd ▸ h)
    · exact .inl (hother x hx hxd)

/-- (X3) no file rule under a name whose deprecation keeps the name is the self-alias
`rule:<that name>` (such a rule could only ever raise `RecursionError`) -/
def NoSelfAlias (file : Content) (regs : List RuleDefault) : Prop :=
  ∀ d ∈ regs, ∀ os v, d.deprecated = some (d.name, os) → afind d.name file = some v →
    isAliasTo d.name v = false

/-- the split case made explicit: `o` deprecated in favour of two different new names, the
file defines only `o ↦ v` (not an alias): both new names get `v`, `o` is gone -/
theorem upgrade_split (file : Content) (regs : List RuleDefault)
    (hU : ∀ d₁ ∈ regs, ∀ d₂ ∈ regs, d₁.name = d₂.name → d₁ = d₂)
    (hX1 : ∀ d ∈ regs, ∀ o os, d.deprecated = some (o, os) → o ≠ d.name →
      (afind o file).isSome → afind d.name file = none)
    (hX2 : ∀ d ∈ regs, ∀ o os, d.deprecated = some (o, os) → o ≠ d.name → ∀ d' ∈ regs, d'.name ≠ o)
    (d₁ d₂ : RuleDefault) (h₁ : d₁ ∈ regs) (h₂ : d₂ ∈ regs) (o : Str) (os₁ os₂ v : JVal)
    (hd₁ : d₁.deprecated = some (o, os₁)) (hd₂ : d₂.deprecated = some (o, os₂))
    (hn₁ : o ≠ d₁.name) (hn₂ : o ≠ d₂.name) (hf : afind o file = some v)
    (ha₁ : isAliasTo d₁.name v = false) (ha₂ : isAliasTo d₂.name v = false) :
    afind d₁.name (toolUpgrade file regs) = some v ∧
    afind d₂.name (toolUpgrade file regs) = some v ∧
    afind o (toolUpgrade file regs) = none := by
  -- neither (X1) nor `hn₂` is needed
  refine (fun _ _ => ⟨?_, ?_, upgrade_old_name (hX2 d₁ h₁ o os₁ hd₁ hn₁) h₁ hd₁⟩) hX1 hn₂
  · simp [upgrade_new_name file regs hU hX2 d₁ h₁, stepWrites, hd₁, hf, ha₁]
  · simp [upgrade_new_name file regs hU hX2 d₂ h₂, stepWrites, hd₂, hf, ha₂]

/-- **Converter, no assumption on keys**: the effective binding of `n` in the converted file
is the first binding of `n` in the file that does not equal the registered default. -/
theorem convert_lookup_first (file : Content) (regs : List RuleDefault) (n : Str) :
    afind n (toolConvert file regs) =
      (file.find? fun p => p.1 = n && !equalsDefault regs n p.2).map (·.2) := by
  simp only [toolConvert, afind_eq_find?, List.find?_filter]
  congr
  funext p
  by_cases h : p.1 = n <;> simp [h]

theorem convert_lookup_kept (file : Content) (regs : List RuleDefault) (n : Str) (v : JVal)
    (h : afind n file = some v) (he : equalsDefault regs n v = false) :
    afind n (toolConvert file regs) = some v :=
  afind_filter_of_pos h (congrArg (!·) he)

theorem convert_lookup_absent (file : Content) (regs : List RuleDefault) (n : Str)
    (h : afind n file = none) : afind n (toolConvert file regs) = none :=
  afind_filter_of_none h

/-- a rule that equals its registered default *is* the default's tree, provided both are
printable (`WFT`): this is why commenting it out (converter) or deleting it (redundancy
list) changes no decision -/
theorem equalsDefault_same_tree (regs : List RuleDefault) (n : Str) (v : JVal) (d : RuleDefault)
    (hf : regs.find? (·.name = n) = some d)
    (h : equalsDefault regs n v = true) (hv : WFT (parseValue v)) (hd : WFT (parseValue d.checkStr)) :
    parseValue v = parseValue d.checkStr := by
  unfold equalsDefault at h
  rw [hf] at h
  exact print_inj _ _ hv hd (by simpa using h)

/-- for string rules (what policy files and `RuleDefault`s hold in practice) `equalsDefault` means
"same tree" with no side condition: what `parseText` returns is always printable -/
theorem equalsDefault_str_same_tree (regs : List RuleDefault) (n : Str) (s sd : Str)
    (d : RuleDefault) (hf : regs.find? (·.name = n) = some d) (hds : d.checkStr = .str sd)
    (h : equalsDefault regs n (.str s) = true) :
    parseValue (.str s) = parseValue d.checkStr :=
  equalsDefault_same_tree regs n (.str s) d hf h (parseText_WFT s) (hds ▸ parseText_WFT sd)

/-! The counterexamples that show (X3) and `Nodup` cannot be dropped, by evaluation. -/

theorem parseText_leaf (k m : Str) (h : WFT (.chk k m)) : parseText (k ++ ':' :: m) = .chk k m := by
  simpa [Tree.print] using parseText_print _ h

/-- `a ↦ role:x`, deprecated under the *same* name with the old default `role:y` -/
def cexDefault : RuleDefault :=
  ⟨['a'], .str ['r','o','l','e',':','x'], some (['a'], .str ['r','o','l','e',':','y'])⟩
/-- the file `{"a": "rule:a"}` -/
def cexFile : Content := [(['a'], .str ['r','u','l','e',':','a'])]

theorem cex_parse : parseText ['r','u','l','e',':','a'] = .chk ['r','u','l','e'] ['a'] :=
  parseText_leaf ['r','u','l','e'] ['a'] (by simp only [WFT, CleanLeaf]; decide)

theorem cex_upgrade : toolUpgrade cexFile [cexDefault] = [] := by
  have : isAliasTo ['a'] (.str ['r','u','l','e',':','a']) = true := by
    simp [isAliasTo, parseValue, cex_parse, Tree.print, rulePrefix]
  simp [toolUpgrade, upgradeStep, cexDefault, cexFile, afind, aremove, this]

/-- (U), (X1), (X2) hold, yet the lookup under the new name and what governs both change:
`C18.upgrade_preserves` without (X3) is false -/
theorem upgrade_needs_noSelfAlias :
    (∀ d₁ ∈ [cexDefault], ∀ d₂ ∈ [cexDefault], d₁.name = d₂.name → d₁ = d₂) ∧
    (∀ d ∈ [cexDefault], ∀ o os, d.deprecated = some (o, os) → o ≠ d.name →
      (afind o cexFile).isSome → afind d.name cexFile = none) ∧
    (∀ d ∈ [cexDefault], ∀ o os, d.deprecated = some (o, os) → o ≠ d.name →
      ∀ d' ∈ [cexDefault], d'.name ≠ o) ∧
    afind cexDefault.name (toolUpgrade cexFile [cexDefault]) = none ∧
    (afind cexDefault.name cexFile).isSome ∧
    governs false (toolUpgrade cexFile [cexDefault]) cexDefault ≠ governs false cexFile cexDefault := by
  -- the only deprecation keeps the name, so (X1) and (X2) hold for lack of a renaming
  have hsame : ∀ d ∈ [cexDefault], ∀ o os, d.deprecated = some (o, os) → ¬ o ≠ d.name := by
    simp [cexDefault]
  refine ⟨by simp, fun d hd o os h hne => absurd hne (hsame d hd o os h),
    fun d hd o os h hne => absurd hne (hsame d hd o os h), by simp [cex_upgrade, afind],
    by simp [cexFile, cexDefault, afind], ?_⟩
  rw [cex_upgrade]
  simp [governs, cexDefault, cexFile, afind, jvalStrNe, parseValue, cex_parse]

/-- the list `[("a", "role:x"), ("a", "role:z")]` (not a Python dict: duplicated key) -/
def cexDupFile : Content :=
  [(['a'], .str ['r','o','l','e',':','x']), (['a'], .str ['r','o','l','e',':','z'])]

/-- with a duplicated key `C18.convert_keeps_or_comments` fails: the effective binding
equals the default, yet the converted file still defines the name (by the later binding) -/
theorem convert_needs_nodup :
    (∃ v, afind ['a'] cexDupFile = some v ∧ equalsDefault [cexDefault] ['a'] v = true) ∧
    afind ['a'] (toolConvert cexDupFile [cexDefault]) = some (.str ['r','o','l','e',':','z']) := by
  have hx := parseText_leaf ['r','o','l','e'] ['x'] (by simp only [WFT, CleanLeaf]; decide)
  have hz := parseText_leaf ['r','o','l','e'] ['z'] (by simp only [WFT, CleanLeaf]; decide)
  simp only [List.cons_append, List.nil_append] at hx hz
  constructor
  · exact ⟨_, rfl, by simp [equalsDefault, cexDefault]⟩
  · rw [convert_lookup_first]
    simp [cexDupFile, equalsDefault, cexDefault, parseValue, hx, hz, Tree.print]

end OsloPolicy
