import OsloPolicy.Proofs.Loader
/-
Histories in which the service keeps *registering defaults* (`Enforcer.register_default`) between
file operations and loads.  `register_default` only appends to `registered_rules`; the loop at the
end of every `load_rules` adds a default for each name still absent.  The history invariant of
`Proofs/Loader.lean` is stated through `mergeDefaults … regs rules`, a left fold over `regs`, so it
survives an append — which is what makes a default registered after the first load show up at the
next one.
-/
namespace OsloPolicy

/-- The invariant for the defaults registered so far is the invariant for any extension of them. -/
theorem Inv_register (en : Bool) (r1 r2 : List RuleDefault) (w : World) (h : Inv en r1 w) :
    Inv en (r1 ++ r2) w := by
  obtain ⟨fsL, cL, h1, h2, h3, h4, h5, h6, h7, h8, h9, h10⟩ := h
  refine ⟨fsL, cL, h1, h2, h3, h4, h5, h6, ?_, h8, h9, h10⟩
  rw [mergeDefaults_append, h7, h8, compute_append]

theorem InvR_step (en : Bool) (w : WorldR) (op : OpR) (h : Inv en w.regs w.world) :
    Inv en (stepR en w op).regs (stepR en w op).world := by
  cases op with
  | fs op => exact Inv_step en w.regs w.world op h
  | register d =>
    by_cases hd : w.regs.any (·.name = d.name) = true
    · simpa [stepR, hd] using h
    · simpa [stepR, hd] using Inv_register en w.regs [d] w.world h

/-- **The invariant holds after every history** of file operations, loads and registrations, from
any stamped file system and any defaults registered at the start. -/
theorem Inv_history (en : Bool) (regs0 : List RuleDefault) (fs0 : FS) (clock0 : Nat)
    (hst : FS.Stamped fs0 clock0) (ops : List OpR) :
    let w := ops.foldl (stepR en) ⟨⟨fs0, Enf.init fs0.dirs.length, clock0⟩, regs0⟩
    Inv en w.regs w.world :=
  List.foldlRecOn ops _ (motive := fun w => Inv en w.regs w.world) (Inv_init en regs0 fs0 clock0 hst)
    fun w hw op _ => InvR_step en w op hw

/-- a history without registrations is a history with registrations -/
theorem foldl_stepR_fs (en : Bool) (regs : List RuleDefault) (ops : List Op) (w : World) :
    (ops.map OpR.fs).foldl (stepR en) ⟨w, regs⟩ = ⟨ops.foldl (step en regs) w, regs⟩ := by
  rw [List.foldl_map]
  exact List.foldl_hom (fun w => WorldR.mk w regs) fun _ _ => rfl

end OsloPolicy
