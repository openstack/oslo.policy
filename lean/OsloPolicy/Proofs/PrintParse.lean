import OsloPolicy.Proofs.ParserSound
import OsloPolicy.Spec.Layout
/-
Printer/parser round trip at token level, and the shape of the parser's image:

* `parseToks_printToks`: parsing the tokens that `str(tree)` spells gives the tree back,
  provided every and/or node has at least two members (`Wide`);
* `parseToks_wide` / `parseToks_leaves`: every tree the parser builds from leaf check
  tokens is `Wide`, and a property of the check tokens holds at every leaf of the tree.
-/
namespace OsloPolicy

mutual
/-- Every `.and ts` / `.or ts` node, at any depth, has at least two members. -/
def Wide : Tree → Prop
  | .tt => True
  | .ff => True
  | .chk _ _ => True
  | .not t => Wide t
  | .and ts => 2 ≤ ts.length ∧ Wides ts
  | .or ts => 2 ≤ ts.length ∧ Wides ts
def Wides : List Tree → Prop
  | [] => True
  | t :: ts => Wide t ∧ Wides ts
end

mutual
/-- Every printed tree is atom-level: running its tokens is pushing one `chk` entry. -/
theorem run_print : (t : Tree) → Wide t → ∀ st, run st (printToks t) = reduce (.chk t :: st)
  | .tt, _, st | .ff, _, st | .chk k m, _, st => rfl
  | .not t, h, st => by
      simp only [printToks, run_cons, shift, Tok.ent, reduce_kNot]
      rw [run_print t h, reduce_chk_not]
  | .and [], h, _ | .and [a], h, _ | .or [], h, _ | .or [a], h, _ => absurd h.1 (by simp)
  | .and (a :: b :: rest), ⟨_, ha, hr⟩, st => by
      simp only [printToks, sepToks, run_cons, run_append, shift, Tok.ent, reduce_lp, run_nil]
      rw [run_print a ha, reduce_chk_quiet _ _ (by trivial), reduce_kAnd,
        run_sepAnd (b :: rest) nofun hr _ _ (by trivial), reduce_rp _ _ (by trivial)]
      rfl
  | .or (a :: b :: rest), ⟨_, ha, hr⟩, st => by
      simp only [printToks, sepToks, run_cons, run_append, shift, Tok.ent, reduce_lp, run_nil]
      rw [run_print a ha, reduce_chk_quiet _ _ (by trivial), reduce_kOr,
        run_sepOr (b :: rest) nofun hr _ _ (by trivial), reduce_rp _ _ (by trivial)]
      rfl
theorem run_sepAnd : (ts : List Tree) → ts ≠ [] → Wides ts → ∀ st X, IsAT X →
    run (.kAnd :: X :: st) (sepToks .kAnd ts) = .andE (toAndList X ++ ts) :: st
  | [], hne, _, _, _, _ => absurd rfl hne
  | [t], _, ⟨ht, _⟩, st, X, hX => by
      rw [sepToks, run_print t ht, reduce_chk_and _ _ _ hX]
  | t :: u :: r, _, ⟨ht, hr⟩, st, X, hX => by
      simp only [sepToks, run_append, run_cons, shift, Tok.ent]
      rw [run_print t ht, reduce_chk_and _ _ _ hX, reduce_kAnd,
        run_sepAnd (u :: r) nofun hr st _ (by trivial)]
      simp [toAndList]
/-- The members of an or-group after the first: each one arrives as a `chk` entry (an
and-member was printed in parentheses), so only `_make_or_expr` / `_extend_or_expr` fire. -/
theorem run_sepOr : (ts : List Tree) → ts ≠ [] → Wides ts → ∀ st X, IsNT X →
    run (.kOr :: X :: st) (sepToks .kOr ts) = .orE (toOrList X ++ ts) :: st
  | [], hne, _, _, _, _ => absurd rfl hne
  | [t], _, ⟨ht, _⟩, st, X, hX => by
      rw [sepToks, run_print t ht, reduce_chk_or _ _ _ hX]
  | t :: u :: r, _, ⟨ht, hr⟩, st, X, hX => by
      simp only [sepToks, run_append, run_cons, shift, Tok.ent]
      rw [run_print t ht, reduce_chk_or _ _ _ hX, reduce_kOr,
        run_sepOr (u :: r) nofun hr st _ (by trivial)]
      simp [toOrList]
end

theorem parseToks_printToks (t : Tree) (h : Wide t) : parseToks (printToks t) = some t := by
  unfold parseToks
  rw [run_print t h [], reduce_chk_quiet _ _ (by simp [Quiet])]
  simp [result]

/-- every check token of the list carries a tree satisfying P -/
def ToksAll (P : Tree → Prop) (toks : List Tok) : Prop := ∀ t, Tok.chk t ∈ toks → P t

mutual
/-- P holds at every leaf (`tt`, `ff`, `chk k m` node) of the tree -/
def LeavesAll (P : Tree → Prop) : Tree → Prop
  | .tt => P .tt
  | .ff => P .ff
  | .chk k m => P (.chk k m)
  | .not t => LeavesAll P t
  | .and ts => LeavesAlls P ts
  | .or ts => LeavesAlls P ts
def LeavesAlls (P : Tree → Prop) : List Tree → Prop
  | [] => True
  | t :: ts => LeavesAll P t ∧ LeavesAlls P ts
end

def IsLeafTree : Tree → Prop
  | .tt | .ff | .chk _ _ => True
  | _ => False

theorem Wides_iff (ts : List Tree) : Wides ts ↔ ∀ x ∈ ts, Wide x := by
  induction ts with
  | nil => simp [Wides]
  | cons t ts ih => simp [Wides, ih]

theorem LeavesAlls_iff (P) (ts : List Tree) : LeavesAlls P ts ↔ ∀ x ∈ ts, LeavesAll P x := by
  induction ts with
  | nil => simp [LeavesAlls]
  | cons t ts ih => simp [LeavesAlls, ih]

/-- What the parser's output satisfies: wide, and `P` at every leaf. -/
def Good (P : Tree → Prop) (t : Tree) : Prop := Wide t ∧ LeavesAll P t

theorem Good_and (P ts) : Good P (.and ts) ↔ 2 ≤ ts.length ∧ ∀ x ∈ ts, Good P x := by
  simp only [Good, Wide, LeavesAll, Wides_iff, LeavesAlls_iff, forall_and, and_assoc]

theorem Good_or (P ts) : Good P (.or ts) ↔ 2 ≤ ts.length ∧ ∀ x ∈ ts, Good P x := by
  simp only [Good, Wide, LeavesAll, Wides_iff, LeavesAlls_iff, forall_and, and_assoc]

theorem Good_not (P t) : Good P (.not t) ↔ Good P t := by
  simp only [Good, Wide, LeavesAll]

theorem Good_leaf (P t) (hl : IsLeafTree t) (hp : P t) : Good P t := by
  cases t <;> simp_all [IsLeafTree, Good, Wide, LeavesAll]

theorem andJoin_good (P) {f c : Tree} (hf : Good P f) (hc : Good P c) : Good P (andJoin f c) := by
  have h2 : ∀ t, Good P t → Good P (.and [t, c]) := fun t ht =>
    (Good_and P _).2 ⟨by simp, by simp [ht, hc]⟩
  cases f with
  | and as =>
    rw [Good_and] at hf
    exact (Good_and P _).2 ⟨by simp; omega, by simpa [or_imp, forall_and, hc] using hf.2⟩
  | _ => exact h2 _ hf

theorem foldl_andJoin_good (P) {f : Tree} {rest : List Tree} (hf : Good P f)
    (hr : ∀ x ∈ rest, Good P x) : Good P (rest.foldl andJoin f) := by
  induction rest generalizing f with
  | nil => exact hf
  | cons c rest ih =>
    exact ih (andJoin_good P hf (hr c (by simp))) fun x hx => hr x (by simp [hx])

theorem toOrList_good (P) {X : Ent} (hX : IsNT X) (h : Good P (entTree X)) {c : Tree}
    (hc : Good P c) : Good P (.or (toOrList X ++ [c])) := by
  rw [Good_or]
  cases X <;> try exact hX.elim
  · exact ⟨by simp [toOrList], by simpa [toOrList, entTree, hc] using h⟩
  · exact ⟨by simp [toOrList], by simpa [toOrList, entTree, hc] using h⟩
  · rw [entTree, Good_or] at h
    exact ⟨by simp [toOrList]; omega, by simpa [toOrList, or_imp, forall_and, hc] using h.2⟩

theorem ent1_good (P) (l : List Tree) (hne : l ≠ []) (h : ∀ x ∈ l, Good P x) :
    Good P (entTree (ent1 l)) := by
  match l, hne with
  | [x], _ => simpa [ent1, entTree] using h
  | x :: y :: r, _ =>
    simp only [ent1, entTree, Good_and]
    exact ⟨by simp, h⟩

theorem good_sem (P) :
    (∀ e : E 0, ToksAll (fun t => IsLeafTree t ∧ P t) e.render → Good P (entTree (sem0 e))) ∧
    (∀ e : E 1, ToksAll (fun t => IsLeafTree t ∧ P t) e.render → ∀ x ∈ sem1 e, Good P x) ∧
    (∀ e : E 2, ToksAll (fun t => IsLeafTree t ∧ P t) e.render → Good P (sem2 e)) := by
  apply E.strata
  · intro t h
    have := h t (by simp [E.render])
    rw [sem2]; exact Good_leaf P t this.1 this.2
  · intro e ih h
    rw [sem2]; exact ih fun t ht => h t (by simp [E.render, ht])
  · intro e ih h
    rw [sem2, Good_not]; exact ih fun t ht => h t (by simp [E.render, ht])
  · intro e ih h
    simpa [sem1] using ih h
  · intro a b iha ihb h
    have ha := iha fun t ht => h t (by simp [E.render, ht])
    have hb := ihb fun t ht => h t (by simp [E.render, ht])
    simpa [sem1, or_imp, forall_and, hb] using ha
  · intro e ih h
    rw [sem0]; exact ent1_good P _ (sem1_ne e) (ih h)
  · intro l r ihl ihr h
    have hl := ihl fun t ht => h t (by simp [E.render, ht])
    have hr := ihr fun t ht => h t (by simp [E.render, ht])
    obtain ⟨f, rest, hfr⟩ := List.exists_cons_of_ne_nil (sem1_ne r)
    rw [sem0, hfr, orCtx_cons]
    rw [hfr] at hr
    exact toOrList_good P (sem0_nt l) hl
      (foldl_andJoin_good P (hr f (by simp)) fun x hx => hr x (by simp [hx]))

theorem good2 (P) : (e : E 2) → ToksAll (fun t => IsLeafTree t ∧ P t) e.render → Good P (sem2 e) :=
  (good_sem P).2.2

/-- Everything the parser builds from leaf check tokens is wide, and carries at its
leaves whatever held of the check tokens. -/
theorem parseToks_good (P : Tree → Prop) (toks : List Tok) (t : Tree)
    (hleaf : ToksAll (fun t => IsLeafTree t ∧ P t) toks) (h : parseToks toks = some t) :
    Wide t ∧ LeavesAll P t := by
  obtain ⟨e, rfl, rfl⟩ := parseToks_sound toks t h
  exact (good_sem P).1 e hleaf

theorem parseToks_leaves (P : Tree → Prop) (toks : List Tok) (t : Tree)
    (hleaf : ToksAll (fun t => (match t with | .tt | .ff | .chk _ _ => True | _ => False) ∧ P t) toks)
    (h : parseToks toks = some t) : LeavesAll P t := by
  refine (parseToks_good P toks t ?_ h).2
  intro x hx
  have := hleaf x hx
  cases x <;> simp_all [IsLeafTree]

theorem parseToks_wide (toks : List Tok) (t : Tree)
    (hleaf : ToksAll (fun t => match t with | .tt | .ff | .chk _ _ => True | _ => False) toks)
    (h : parseToks toks = some t) : Wide t := by
  refine (parseToks_good (fun _ => True) toks t ?_ h).1
  intro x hx
  have := hleaf x hx
  cases x <;> simp_all [IsLeafTree]

end OsloPolicy
