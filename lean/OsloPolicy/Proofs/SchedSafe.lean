import OsloPolicy.Properties.C20
/-
C20, the positive half.  `C20.inplace_violates` shows that with the in-place rebuild of the shared
rule store a decision taken concurrently with a reload can be neither the old nor the new
policy's.  In that same in-place model a thread running alone, and two threads running one after
the other, are fine (`solo_enforce`, `sequential_new`).  And if a reload builds a PRIVATE store and
publishes it with one write, and a decision reads the shared store once (`stepS`, `runS`), every
decision under EVERY schedule is the complete old or the complete new policy's (`swap_safe`).
-/

namespace OsloPolicy.Sched

/-- one default-merge step (the body of the fold in `compute`, and of `step` at pc `n+5`) -/
def mergeF (acc : Content) (d : Nat × Bool) : Content :=
  if (look acc d.1).isSome then acc else acc ++ [d]

theorem compute_eq (sc : Scenario) (main dirs : Content) :
    compute sc main dirs = sc.regs.foldl mergeF (upd main dirs) := rfl

theorem look_append (c c' : Content) (k : Nat) : look (c ++ c') k = (look c k).or (look c' k) := by
  simp [look, List.find?_append, Option.map_or]

theorem mergeF_mono (c : Content) (d : Nat × Bool) (k : Nat) (h : (look c k).isSome) :
    (look (mergeF c d) k).isSome := by
  unfold mergeF; split
  · exact h
  · simp [look_append, h]

theorem mergeF_self (c : Content) (d : Nat × Bool) : (look (mergeF c d) d.1).isSome := by
  unfold mergeF; split
  · assumption
  · simp [look]

theorem foldl_mergeF_mono (l : List (Nat × Bool)) (c : Content) (k : Nat) (h : (look c k).isSome) :
    (look (l.foldl mergeF c) k).isSome :=
  List.foldlRecOn l mergeF h fun b hb a _ => mergeF_mono b a k hb

theorem foldl_mergeF_has (l : List (Nat × Bool)) (c : Content) :
    ∀ d ∈ l, (look (l.foldl mergeF c) d.1).isSome := by
  induction l generalizing c with
  | nil => intro d hd; cases hd
  | cons e l ih =>
    intro d hd
    rcases List.mem_cons.1 hd with rfl | hd
    · exact foldl_mergeF_mono l _ _ (mergeF_self c d)
    · exact ih _ d hd

theorem mergeIdem (l : List (Nat × Bool)) (c : Content) (h : ∀ d ∈ l, (look c d.1).isSome) :
    l.foldl mergeF c = c := by
  induction l with
  | nil => rfl
  | cons e l ih =>
    rw [List.foldl_cons, mergeF, if_pos (h e (List.mem_cons_self ..))]
    exact ih fun d hd => h d (List.mem_cons_of_mem _ hd)

/-- a store under construction: `base` with the first `n` registered defaults merged in -/
def merged (sc : Scenario) (base : Content) (n : Nat) : Content := (sc.regs.take n).foldl mergeF base

theorem merged_succ (sc : Scenario) (base : Content) {n : Nat} {e : Nat × Bool} (h : sc.regs[n]? = some e) :
    merged sc base (n + 1) = mergeF (merged sc base n) e := by
  simp [merged, List.take_add_one, h, List.foldl_append]

theorem merged_full (sc : Scenario) (base : Content) {n : Nat} (h : sc.regs.length ≤ n) :
    merged sc base n = sc.regs.foldl mergeF base := by
  rw [merged, List.take_of_length_le h]

theorem foldl_merged (sc : Scenario) (base : Content) (n : Nat) :
    sc.regs.foldl mergeF (merged sc base n) = sc.regs.foldl mergeF base := by
  have split : ∀ c, sc.regs.foldl mergeF c = (sc.regs.drop n).foldl mergeF (merged sc c n) := fun c => by
    rw [merged, ← List.foldl_append, List.take_append_drop]
  rw [split, split base]
  exact congrArg (List.foldl mergeF · _) (mergeIdem (sc.regs.take n) _ (foldl_mergeF_has _ base))

theorem compute_has_regs (sc : Scenario) (main dirs : Content) :
    ∀ d ∈ sc.regs, (look (compute sc main dirs) d.1).isSome :=
  foldl_mergeF_has _ _

theorem compute_merge_idem (sc : Scenario) (main dirs : Content) :
    sc.regs.foldl mergeF (compute sc main dirs) = compute sc main dirs :=
  mergeIdem _ _ (compute_has_regs sc main dirs)

/-- `k` turns of ONE thread (a finished thread's turn is a no-op, as in `run`) -/
def solo (sc : Scenario) : Nat → Shared × Local → Shared × Local
  | 0, st => st
  | k+1, (s, l) => if done l then (s, l) else solo sc k (step sc s l)

theorem solo_done (sc : Scenario) (k : Nat) (s : Shared) (l : Local) (h : done l = true) :
    solo sc k (s, l) = (s, l) := by
  cases k <;> simp [solo, h]

theorem solo_succ (sc : Scenario) (k : Nat) (s : Shared) (l : Local) (h : done l = false) :
    solo sc (k+1) (s, l) = solo sc k (step sc s l) := by
  simp [solo, h]

theorem solo_add (sc : Scenario) (j k : Nat) (st : Shared × Local) :
    solo sc (j + k) st = solo sc k (solo sc j st) := by
  induction j generalizing st with
  | zero => rw [Nat.zero_add]; rfl
  | succ j ih =>
    obtain ⟨s, l⟩ := st
    rw [Nat.add_right_comm]
    cases h : done l with
    | true => rw [solo_done _ _ _ _ h, solo_done _ _ _ _ h, solo_done _ _ _ _ h]
    | false => rw [solo_succ _ _ _ _ h, solo_succ _ _ _ _ h, ih]

theorem solo_split (sc : Scenario) (j : Nat) {k : Nat} (h : j ≤ k) (st : Shared × Local) :
    solo sc k st = solo sc (k - j) (solo sc j st) := by
  rw [← solo_add, Nat.add_sub_cancel' h]

theorem solo_inv (sc : Scenario) {P : Shared → Local → Prop}
    (hP : ∀ s l, P s l → P (step sc s l).1 (step sc s l).2)
    (k : Nat) (s : Shared) (l : Local) (h : P s l) : P (solo sc k (s, l)).1 (solo sc k (s, l)).2 := by
  induction k generalizing s l with
  | zero => exact h
  | succ k ih =>
    cases hl : done l with
    | true => rwa [solo_done _ _ _ _ hl]
    | false => rw [solo_succ _ _ _ _ hl]; exact ih _ _ (hP s l h)

theorem run_replicate_true (sc : Scenario) (k : Nat) (s : Shared) (a b : Local) :
    run sc (List.replicate k true) (s, a, b) = ((solo sc k (s, a)).1, (solo sc k (s, a)).2, b) := by
  induction k generalizing s a with
  | zero => rfl
  | succ k ih =>
    simp only [List.replicate_succ, run, solo]
    split
    · rw [ih, solo_done _ _ _ _ (by assumption)]
    · exact ih _ _

theorem run_replicate_false (sc : Scenario) (k : Nat) (s : Shared) (a b : Local) :
    run sc (List.replicate k false) (s, a, b) = ((solo sc k (s, b)).1, a, (solo sc k (s, b)).2) := by
  induction k generalizing s b with
  | zero => rfl
  | succ k ih =>
    simp only [List.replicate_succ, run, solo]
    split
    · rw [ih, solo_done _ _ _ _ (by assumption)]
    · exact ih _ _

theorem run_append (sc : Scenario) (xs ys : List Bool) (st : Shared × Local × Local) :
    run sc (xs ++ ys) st = run sc ys (run sc xs st) := by
  induction xs generalizing st with
  | nil => rfl
  | cons x xs ih =>
    obtain ⟨s, a, b⟩ := st
    cases x <;> simp only [List.cons_append, run] <;> split <;> exact ih _

theorem run_done (sc : Scenario) (xs : List Bool) (s : Shared) (a b : Local)
    (ha : done a = true) (hb : done b = true) : run sc xs (s, a, b) = (s, a, b) := by
  induction xs with
  | nil => rfl
  | cons x xs ih => cases x <;> simp [run, ha, hb, ih]

theorem oneSwitch_eq (sc : Scenario) (s0 : Shared) (k : Nat) :
    oneSwitch sc s0 k =
      let p := solo sc k (s0, {})
      let q := solo sc (span sc) (p.1, {})
      ((solo sc (span sc) (q.1, p.2)).2.out, q.2.out) := by
  simp only [oneSwitch, run_append, run_replicate_true, run_replicate_false]

section steps
variable (sc : Scenario) (R : Content) (m d c u : Bool) (o : Option Bool) (n : Nat) (e : Nat × Bool)
theorem step0a (h : (m || R.isEmpty) = true) :
    step sc ⟨R, m, d⟩ ⟨0, c, u, o⟩ = (⟨R, false, d⟩, ⟨1, true, u, o⟩) := by simp only [step, h, if_true]
theorem step0b (h : (m || R.isEmpty) = false) :
    step sc ⟨R, m, d⟩ ⟨0, c, u, o⟩ = (⟨R, m, d⟩, ⟨2, false, u, o⟩) := by simp [step, h]
theorem step1 : step sc ⟨R, m, d⟩ ⟨1, c, u, o⟩ = (⟨sc.mainNew, m, d⟩, ⟨2, c, u, o⟩) := rfl
theorem step2 : step sc ⟨R, m, d⟩ ⟨2, c, u, o⟩ = (⟨R, m, false⟩, ⟨3, c, d, o⟩) := rfl
theorem step3a : step sc ⟨R, m, d⟩ ⟨3, true, u, o⟩ = (⟨R, m, d⟩, ⟨4, true, u, o⟩) := rfl
theorem step3b : step sc ⟨R, m, d⟩ ⟨3, false, true, o⟩ = (⟨sc.mainNew, m, d⟩, ⟨4, false, true, o⟩) := rfl
theorem step3c : step sc ⟨R, m, d⟩ ⟨3, false, false, o⟩ = (⟨R, m, d⟩, ⟨5, false, false, o⟩) := rfl
theorem step4 : step sc ⟨R, m, d⟩ ⟨4, c, u, o⟩ = (⟨upd R sc.dirsNew, m, d⟩, ⟨5, c, u, o⟩) := rfl
theorem step_merge (h : sc.regs[n]? = some e) :
    step sc ⟨R, m, d⟩ ⟨n + 5, c, u, o⟩ = (⟨mergeF R e, m, d⟩, ⟨n + 6, c, u, o⟩) := by
  simp only [step, h, mergeF]; split <;> rfl
theorem step_decide (h : sc.regs[n]? = none) :
    step sc ⟨R, m, d⟩ ⟨n + 5, c, u, o⟩ = (⟨R, m, d⟩, ⟨n + 5, c, u, some (decideOn sc R)⟩) := by
  simp only [step, h]
end steps

theorem solo_loop (sc : Scenario) (m d c u : Bool) (k n : Nat) (base : Content)
    (hn : n ≤ sc.regs.length) (hk : sc.regs.length + 1 ≤ k + n) :
    let r := solo sc k (⟨merged sc base n, m, d⟩, ⟨n + 5, c, u, none⟩)
    r.1 = ⟨sc.regs.foldl mergeF base, m, d⟩ ∧ r.2.out = some (decideOn sc (sc.regs.foldl mergeF base)) := by
  induction k generalizing n with
  | zero => omega
  | succ k ih =>
    rw [solo_succ _ _ _ _ rfl]
    cases h : sc.regs[n]? with
    | none =>
      rw [step_decide _ _ _ _ _ _ _ _ h, solo_done _ _ _ _ rfl, merged_full sc base (by simpa using h)]
      exact ⟨rfl, rfl⟩
    | some e =>
      rw [step_merge _ _ _ _ _ _ _ _ _ h, ← merged_succ sc base h]
      exact ih (n + 1) (List.getElem?_eq_some_iff.1 h).1 (by omega)

/-- `span` is indeed an upper bound on the length of an `enforce`, from any program point -/
theorem solo_terminates (sc : Scenario) (k : Nat) (s : Shared) (l : Local)
    (hk : sc.regs.length + 6 ≤ k + l.pc) (h0 : 0 < k) : done (solo sc k (s, l)).2 = true := by
  induction k generalizing s l with
  | zero => omega
  | succ k ih =>
    cases hl : done l with
    | true => rwa [solo_done _ _ _ _ hl]
    | false =>
      rw [solo_succ _ _ _ _ hl]
      obtain ⟨pc, c, u, o⟩ := l
      simp only at hk
      match pc with
      | 0 => simp only [step]; split <;> exact ih _ _ (by simp only; omega) (by omega)
      | 1 | 2 | 4 => exact ih _ _ (by simp only; omega) (by omega)
      | 3 => simp only [step]; split <;> exact ih _ _ (by simp only; omega) (by omega)
      | n+5 =>
        cases h : sc.regs[n]? with
        | some e =>
          have := (List.getElem?_eq_some_iff.1 h).1
          rw [step_merge _ _ _ _ _ _ _ _ _ h]
          exact ih _ _ (by simp only; omega) (by omega)
        | none => rw [step_decide _ _ _ _ _ _ _ _ h, solo_done _ _ _ _ rfl]; rfl

/-- the store a complete `enforce`, run alone, leaves behind: the complete new policy if anything
is stale (an empty store counts as stale), else the store with the registered defaults merged in -/
def reload (sc : Scenario) (s : Shared) : Content :=
  if s.mainStale || s.rules.isEmpty || s.dirStale then compute sc sc.mainNew sc.dirsNew
  else sc.regs.foldl mergeF s.rules

theorem solo_enforce (sc : Scenario) (s : Shared) (k : Nat) (hk : span sc ≤ k) :
    let r := solo sc k (s, {})
    r.1 = ⟨reload sc s, false, false⟩ ∧ r.2.out = some (decideOn sc (reload sc s)) := by
  obtain ⟨R, m, d⟩ := s
  -- whichever way the thread reaches the merge loop (pc 5), with whatever store `P`, the loop finishes the job
  have loop (j : Nat) (P : Content) (c u : Bool) (hj : j ≤ 5)
      (h : solo sc j (⟨R, m, d⟩, {}) = (⟨P, false, false⟩, ⟨5, c, u, none⟩)) :
      let r := solo sc k (⟨R, m, d⟩, {})
      r.1 = ⟨sc.regs.foldl mergeF P, false, false⟩ ∧ r.2.out = some (decideOn sc (sc.regs.foldl mergeF P)) := by
    unfold span at hk
    rw [solo_split sc j (by omega), h]
    exact solo_loop sc false false c u _ 0 P (Nat.zero_le _) (by omega)
  cases hA : m || R.isEmpty with
  | true =>
    -- main file stale (or empty store): full reload
    simp only [reload, hA, Bool.true_or, if_true]
    exact loop 5 (upd sc.mainNew sc.dirsNew) true d (Nat.le_refl _) (by simp [solo, done, step, hA])
  | false =>
    obtain ⟨rfl, hR⟩ : m = false ∧ R.isEmpty = false := by simpa using hA
    cases d with
    | true =>
      -- only the directories are stale: forced main reload, then policy.d, then defaults
      simp only [reload, hR, Bool.or_true, if_true]
      exact loop 4 (upd sc.mainNew sc.dirsNew) false true (by decide) (by simp [solo, done, step, hR])
    | false =>
      -- nothing stale: straight to the default merge
      simp only [reload, hR, Bool.or_self, Bool.false_eq_true, if_false]
      exact loop 3 R false false (by decide) (by simp [solo, done, step, hR])

/-- nothing stale means old = new, and the default merge is idempotent -/
theorem reload_truthful (sc : Scenario) (mainOld dirsOld : Content) (ms ds : Bool)
    (hm : ms = false → mainOld = sc.mainNew) (hd : ds = false → dirsOld = sc.dirsNew) :
    reload sc ⟨compute sc mainOld dirsOld, ms, ds⟩ = compute sc sc.mainNew sc.dirsNew := by
  unfold reload; split
  · rfl
  · rename_i h
    simp only [Bool.or_eq_true, not_or, Bool.not_eq_true] at h
    rw [hm h.1.1, hd h.2, compute_merge_idem]

/-- The thread `first` (true = A, false = B) runs its whole `enforce` before the other starts, then the
other runs its own, then anything.  Contrast `C20.inplace_violates`, where the threads interleave. -/
theorem sequential_new (sc : Scenario) (mainOld dirsOld : Content) (ms ds : Bool)
    (hm : ms = false → mainOld = sc.mainNew) (hd : ds = false → dirsOld = sc.dirsNew)
    (first : Bool) (k₁ k₂ : Nat) (h₁ : span sc ≤ k₁) (h₂ : span sc ≤ k₂) (rest : List Bool) :
    let r := run sc (List.replicate k₁ first ++ List.replicate k₂ (!first) ++ rest)
                (⟨compute sc mainOld dirsOld, ms, ds⟩, {}, {})
    r.1 = ⟨compute sc sc.mainNew sc.dirsNew, false, false⟩ ∧
    r.2.1.out = some (decideOn sc (compute sc sc.mainNew sc.dirsNew)) ∧
    r.2.2.out = some (decideOn sc (compute sc sc.mainNew sc.dirsNew)) := by
  have h1 := solo_enforce sc ⟨compute sc mainOld dirsOld, ms, ds⟩ k₁ h₁
  have h2 := solo_enforce sc ⟨compute sc sc.mainNew sc.dirsNew, false, false⟩ k₂ h₂
  rw [reload_truthful sc _ _ _ _ hm hd] at h1
  rw [reload_truthful sc _ _ _ _ (fun _ => rfl) (fun _ => rfl)] at h2
  cases first with
  | true =>
    simp only [run_append, run_replicate_true, h1.1, Bool.not_true, run_replicate_false]
    rw [run_done _ _ _ _ _ (by simp [done, h1.2]) (by simp [done, h2.2])]
    exact ⟨h2.1, h1.2, h2.2⟩
  | false =>
    simp only [run_append, run_replicate_false, h1.1, Bool.not_false, run_replicate_true]
    rw [run_done _ _ _ _ _ (by simp [done, h2.2]) (by simp [done, h1.2])]
    exact ⟨h2.1, h2.2, h1.2⟩

/-- thread-local state of the build-then-publish variant -/
structure LocalS where
  pc : Nat := 0
  priv : Content := []        -- the private store under construction
  out : Option Bool := none
deriving Repr

/-- One atomic step of the build-then-publish `enforce` for one thread.
* pc 0: look at the stale flags (an empty store counts as stale, as in `step`) and clear them;
  nothing stale → go straight to the decision (pc `regs.length + 3`), else pc 1;
* pc 1: `priv := upd sc.mainNew sc.dirsNew` (main file, then policy.d) — private;
* pc `n+2`, `n < regs.length`: merge registered default `n` into `priv` — private;
* pc `regs.length + 2`: **the one shared write** `s.rules := priv`;
* pc `regs.length + 3`: **the one shared read**: decide on `s.rules`. -/
def stepS (sc : Scenario) (s : Shared) (l : LocalS) : Shared × LocalS :=
  match l.pc with
  | 0 =>
    if s.mainStale || s.dirStale || s.rules.isEmpty then
      ({ s with mainStale := false, dirStale := false }, { l with pc := 1 })
    else (s, { l with pc := sc.regs.length + 3 })
  | 1 => (s, { l with pc := 2, priv := upd sc.mainNew sc.dirsNew })
  | n+2 =>
    match sc.regs[n]? with
    | some d => (s, { l with pc := n + 3, priv := mergeF l.priv d })
    | none =>
      if n = sc.regs.length then ({ s with rules := l.priv }, { l with pc := n + 3 })
      else (s, { l with out := some (decideOn sc s.rules) })

def doneS (l : LocalS) : Bool := l.out.isSome

/-- run a schedule (true = thread A, false = thread B); a finished thread's turn is a no-op -/
def runS (sc : Scenario) : List Bool → Shared × LocalS × LocalS → Shared × LocalS × LocalS
  | [], st => st
  | true :: rest, (s, a, b) => if doneS a then runS sc rest (s, a, b) else
      let (s', a') := stepS sc s a; runS sc rest (s', a', b)
  | false :: rest, (s, a, b) => if doneS b then runS sc rest (s, a, b) else
      let (s', b') := stepS sc s b; runS sc rest (s', a, b')

/-- the shared store is the complete old or the complete new policy — never a mix -/
def GoodStore (sc : Scenario) (mainOld dirsOld : Content) (R : Content) : Prop :=
  R = compute sc mainOld dirsOld ∨ R = compute sc sc.mainNew sc.dirsNew

/-- per-thread invariant: a rebuild that has reached merge step `n` holds exactly the `n`-prefix
of the fold defining the new policy; a decision taken is an old-or-new decision -/
def GoodLocal (sc : Scenario) (mainOld dirsOld : Content) (l : LocalS) : Prop :=
  (∀ n, l.pc = n + 2 → n ≤ sc.regs.length → l.priv = merged sc (upd sc.mainNew sc.dirsNew) n) ∧
  (∀ d, l.out = some d → C20.OldOrNew sc mainOld dirsOld d)

theorem stepS_inv (sc : Scenario) (mainOld dirsOld : Content) (s : Shared) (l : LocalS)
    (hs : GoodStore sc mainOld dirsOld s.rules) (hl : GoodLocal sc mainOld dirsOld l) :
    GoodStore sc mainOld dirsOld (stepS sc s l).1.rules ∧ GoodLocal sc mainOld dirsOld (stepS sc s l).2 := by
  obtain ⟨pc, priv, out⟩ := l
  obtain ⟨hp, ho⟩ := hl
  simp only at hp ho
  match pc with
  | 0 =>
    simp only [stepS]
    split
    · exact ⟨hs, fun n h => by simp at h, ho⟩
    · exact ⟨hs, fun n h hn => by simp at h; omega, ho⟩
  | 1 =>
    refine ⟨hs, fun n h _ => ?_, ho⟩
    obtain rfl : n = 0 := by simpa [stepS] using h.symm
    rfl
  | n+2 =>
    simp only [stepS]
    split
    · rename_i e he
      have := (List.getElem?_eq_some_iff.1 he).1
      refine ⟨hs, fun n' h _ => ?_, ho⟩
      obtain rfl : n' = n + 1 := by simpa using h.symm
      rw [merged_succ sc _ he, ← hp n rfl (by omega)]
    · rename_i hnone
      have : sc.regs.length ≤ n := by simpa using hnone
      split
      · -- the one shared write: `priv` is complete
        exact ⟨Or.inr (by rw [hp n rfl (by omega), merged_full sc _ this]; rfl),
          fun n' h hn' => by simp at h; omega, ho⟩
      · -- the one shared read
        refine ⟨hs, fun n' h hn' => by simp at h; omega, fun d hd => ?_⟩
        exact Option.some.inj hd ▸ hs.imp (congrArg _) (congrArg _)

theorem runS_inv (sc : Scenario) {P : Shared → Prop} {Q : LocalS → Prop}
    (h : ∀ s l, P s → Q l → P (stepS sc s l).1 ∧ Q (stepS sc s l).2)
    (sched : List Bool) (s : Shared) (a b : LocalS) (hs : P s) (ha : Q a) (hb : Q b) :
    let r := runS sc sched (s, a, b)
    P r.1 ∧ Q r.2.1 ∧ Q r.2.2 := by
  induction sched generalizing s a b with
  | nil => exact ⟨hs, ha, hb⟩
  | cons x xs ih =>
    cases x <;> simp only [runS] <;> split
    · exact ih _ _ _ hs ha hb
    · exact ih _ _ _ (h s b hs hb).1 ha (h s b hs hb).2
    · exact ih _ _ _ hs ha hb
    · exact ih _ _ _ (h s a hs ha).1 (h s a hs ha).2 hb

/-- **Build-then-publish is safe for every schedule**: whatever the old contents, whatever the
stale flags (truthful or not — the invariant does not depend on them) and however the two threads
interleave, every decision produced is the complete old or the complete new policy's decision. -/
theorem swap_safe (sc : Scenario) (mainOld dirsOld : Content) (ms ds : Bool)
    (sched : List Bool) :
    let r := runS sc sched (⟨compute sc mainOld dirsOld, ms, ds⟩, {}, {})
    (∀ d, r.2.1.out = some d → C20.OldOrNew sc mainOld dirsOld d) ∧
    (∀ d, r.2.2.out = some d → C20.OldOrNew sc mainOld dirsOld d) := by
  have init : GoodLocal sc mainOld dirsOld {} := ⟨nofun, nofun⟩
  have h := runS_inv sc (P := fun s => GoodStore sc mainOld dirsOld s.rules) (stepS_inv sc mainOld dirsOld)
    sched ⟨compute sc mainOld dirsOld, ms, ds⟩ {} {} (Or.inl rfl) init init
  exact ⟨h.2.1.2, h.2.2.2⟩

/-- strictly alternating schedule: both threads finish, both deny (old and new policy both deny),
and the published store is the complete new policy -/
example :
    let r := runS C20.f10 [true, false, true, false, true, false, true, false, true, false, true, false, true, false]
      (C20.f10Start, {}, {})
    r.2.1.out = some false ∧ r.2.2.out = some false ∧
      r.1.rules = compute C20.f10 C20.f10.mainNew C20.f10.dirsNew := by decide

/-- the very schedule on which the in-place model misbehaves (`C20.inplace_violates`: B allows)
is harmless here: B, whose flags were cleared by A, decides on the still-old store and denies -/
example :
    let r := runS C20.f10 C20.witness (C20.f10Start, {}, {})
    r.2.1.out = some false ∧ r.2.2.out = some false := by decide

end OsloPolicy.Sched
