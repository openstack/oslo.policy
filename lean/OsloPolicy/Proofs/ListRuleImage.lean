import OsloPolicy.Proofs.RoundTrip
/-
The old list-of-lists rule syntax (`_parse_list_rule`) also produces printable trees,
provided each of its strings goes through `_parse_check` to a printable leaf.
-/
namespace OsloPolicy

/-- a string whose `_parse_check` result is a printable leaf -/
def CleanCheckText (s : Str) : Prop :=
  s = ['@'] ∨ s = ['!'] ∨ (CleanLeaf s ∧ ∃ k m, splitColon s = some (k, m))

theorem WFTs_iff (ts : List Tree) : WFTs ts ↔ ∀ x ∈ ts, WFT x := by
  induction ts with
  | nil => simp [WFTs]
  | cons t ts ih => simp [WFTs, ih]

theorem CleanCheckText.wft {s : Str} (h : CleanCheckText s) : WFT (parseCheck s) := by
  rw [parseCheck_WFT_iff]
  rcases h with h | h | ⟨h, _⟩
  · exact .inl h
  · exact .inr (.inl h)
  · exact .inr (.inr (.inr h))

theorem andOf_WFT (ts : List Tree) (hne : ts ≠ []) (h : ∀ x ∈ ts, WFT x) : WFT (andOf ts) := by
  match ts, hne with
  | [t], _ => simpa [andOf] using h
  | t :: u :: r, _ =>
    simp only [andOf, WFT, WFTs_iff]
    exact ⟨by simp, h⟩

theorem orOf_WFT (ts : List Tree) (h : ∀ x ∈ ts, WFT x) : WFT (orOf ts) := by
  match ts with
  | [] => simp [orOf, WFT]
  | [t] => simpa [orOf] using h
  | t :: u :: r =>
    simp only [orOf, WFT, WFTs_iff]
    exact ⟨by simp, h⟩

theorem innerStrings_ne_nil (x : JVal) (ss : List Str) (h : innerStrings x = some ss)
    (ht : x.truthy = true) : ss ≠ [] := by
  cases x with
  | str s => cases h; simp
  | arr xs t =>
    cases xs with
    | nil => simp [JVal.truthy] at ht
    | cons y r =>
      simp only [innerStrings, List.foldr_cons] at h
      split at h <;> cases h
      simp
  | _ => cases h

theorem listRuleMembers_WFT (xs : List JVal)
    (h : ∀ x ∈ xs, ∀ ss, innerStrings x = some ss → ∀ s ∈ ss, WFT (parseCheck s)) :
    ∀ t ∈ listRuleMembers xs, WFT t := by
  intro t ht
  rw [listRuleMembers_eq] at ht
  obtain ⟨x, hx, hm⟩ := List.mem_filterMap.1 ht
  unfold listMember at hm
  split at hm
  · cases hm
  · next htr =>
    obtain ⟨ss, hss, rfl⟩ := Option.map_eq_some_iff.1 hm
    refine andOf_WFT _ ?_ fun y hy => ?_
    · simpa using innerStrings_ne_nil x ss hss (by simpa using htr)
    · obtain ⟨s, hs, rfl⟩ := List.mem_map.1 hy
      exact h x hx ss hss s hs

/-- General form: the list syntax yields a printable tree as soon as every string in it
parses to a printable leaf. -/
theorem parseListRule_WFT' (v : JVal)
    (h : ∀ xs t, v = .arr xs t → ∀ x ∈ xs, ∀ ss, innerStrings x = some ss →
      ∀ s ∈ ss, WFT (parseCheck s)) : WFT (parseListRule v) := by
  cases v with
  | arr ys t =>
    rw [parseListRule_arr]
    split
    · split
      · trivial
      · exact orOf_WFT _ (listRuleMembers_WFT ys (h ys t rfl))
    · trivial
  | _ => trivial

theorem parseListRule_WFT (v : JVal)
    (h : ∀ xs t, v = .arr xs t → ∀ x ∈ xs, ∀ ss, innerStrings x = some ss →
      ∀ s ∈ ss, CleanCheckText s) : WFT (parseListRule v) :=
  parseListRule_WFT' v (fun xs t hv x hx ss hss s hs => (h xs t hv x hx ss hss s hs).wft)

theorem parseText_print_listRule (v : JVal)
    (h : ∀ xs t, v = .arr xs t → ∀ x ∈ xs, ∀ ss, innerStrings x = some ss →
      ∀ s ∈ ss, CleanCheckText s) :
    parseText (parseListRule v).print = parseListRule v :=
  parseText_print _ (parseListRule_WFT v h)

end OsloPolicy
