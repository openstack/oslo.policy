import OsloPolicy.Spec.RefGraph
import OsloPolicy.Proofs.TreeInd
/-
The evaluator's equations at `not` / `and` / `or` nodes, and two facts proved from them:
once an evaluation finishes without exhausting its fuel, more fuel gives the same outcome;
an exception that comes out of a tree was raised by a reference or a leaf of it.
-/
namespace OsloPolicy

section
variable (leaf : Str → Str → Outcome) (ref : Str → Outcome)

theorem evalTree_not_ret {t b} (h : evalTree leaf ref t = .ret b) :
    evalTree leaf ref (.not t) = .ret (!b) := by simp only [evalTree, h]

theorem evalTree_not_raise {t x} (h : evalTree leaf ref t = .raise x) :
    evalTree leaf ref (.not t) = .raise x := by simp only [evalTree, h]

theorem evalTree_and_next {t} (ts) (h : evalTree leaf ref t = .ret true) :
    evalTree leaf ref (.and (t :: ts)) = evalTree leaf ref (.and ts) := by
  simp only [evalTree, evalAll, h]

theorem evalTree_and_stop {t} (ts) (h : evalTree leaf ref t ≠ .ret true) :
    evalTree leaf ref (.and (t :: ts)) = evalTree leaf ref t := by
  rw [evalTree, evalAll]; split
  · contradiction
  · rfl

theorem evalTree_or_next {t} (ts) (h : evalTree leaf ref t = .ret false) :
    evalTree leaf ref (.or (t :: ts)) = evalTree leaf ref (.or ts) := by
  simp only [evalTree, evalAny, h]

theorem evalTree_or_stop {t} (ts) (h : evalTree leaf ref t ≠ .ret false) :
    evalTree leaf ref (.or (t :: ts)) = evalTree leaf ref t := by
  rw [evalTree, evalAny]; split
  · contradiction
  · rfl

end

def NoRec (leaf : Str → Str → Outcome) : Prop := ∀ k m, leaf k m ≠ .raise .recursion
def NoKey (leaf : Str → Str → Outcome) : Prop := ∀ k m, leaf k m ≠ .raise .keyError

/-- The evaluator is monotone in the reference oracle, `RecursionError` being "undefined":
if `r'` agrees with `r` wherever `r` does not run out of fuel, so do the evaluations. -/
theorem evalTree_mono (leaf : Str → Str → Outcome) (r r' : Str → Outcome)
    (h : ∀ m, r m ≠ .raise .recursion → r' m = r m) (t : Tree)
    (hne : evalTree leaf r t ≠ .raise .recursion) : evalTree leaf r' t = evalTree leaf r t := by
  induction t using Tree.induction with
  | tt | ff | and_nil | or_nil => rfl
  | chk k m =>
    simp only [evalTree] at hne ⊢
    split
    · next hk => exact h m (by simpa only [hk, ↓reduceIte] using hne)
    · rfl
  | not t ih =>
    have ht : evalTree leaf r t ≠ .raise .recursion := fun hc => hne (evalTree_not_raise _ _ hc)
    simp only [evalTree, ih ht]
  | and_cons t ts ih ihs =>
    by_cases hv : evalTree leaf r t = .ret true
    · have hv' := (ih (by simp [hv])).trans hv
      rw [evalTree_and_next _ _ ts hv] at hne ⊢
      rw [evalTree_and_next _ _ ts hv', ihs hne]
    · rw [evalTree_and_stop _ _ ts hv] at hne ⊢
      rw [evalTree_and_stop _ _ ts (ih hne ▸ hv), ih hne]
  | or_cons t ts ih ihs =>
    by_cases hv : evalTree leaf r t = .ret false
    · have hv' := (ih (by simp [hv])).trans hv
      rw [evalTree_or_next _ _ ts hv] at hne ⊢
      rw [evalTree_or_next _ _ ts hv', ihs hne]
    · rw [evalTree_or_stop _ _ ts hv] at hne ⊢
      rw [evalTree_or_stop _ _ ts (ih hne ▸ hv), ih hne]

theorem evalAll_mono (leaf : Str → Str → Outcome) (r r' : Str → Outcome)
    (h : ∀ m, r m ≠ .raise .recursion → r' m = r m) :
    (ts : List Tree) → evalAll leaf r ts ≠ .raise .recursion → evalAll leaf r' ts = evalAll leaf r ts :=
  fun ts => by simpa only [evalTree] using evalTree_mono leaf r r' h (.and ts)

theorem evalAny_mono (leaf : Str → Str → Outcome) (r r' : Str → Outcome)
    (h : ∀ m, r m ≠ .raise .recursion → r' m = r m) :
    (ts : List Tree) → evalAny leaf r ts ≠ .raise .recursion → evalAny leaf r' ts = evalAny leaf r ts :=
  fun ts => by simpa only [evalTree] using evalTree_mono leaf r r' h (.or ts)

/-- the `try … except KeyError` wrapper of `RuleCheck.__call__` -/
def catchKey : Outcome → Outcome
  | .raise .keyError => .ret false
  | o => o

theorem catchKey_eq_rec {o : Outcome} : catchKey o = .raise .recursion ↔ o = .raise .recursion := by
  cases o with
  | ret b => simp [catchKey]
  | raise x => cases x <;> simp [catchKey]

theorem catchKey_ne_key (o : Outcome) : catchKey o ≠ .raise .keyError := by
  cases o with
  | ret b => simp [catchKey]
  | raise x => cases x <;> simp [catchKey]

theorem catchKey_id (o : Outcome) (h : o ≠ .raise .keyError) : catchKey o = o := by
  cases o with
  | ret b => rfl
  | raise x => cases x <;> first | rfl | exact absurd rfl h

theorem catchKey_of_ne_rec (o o' : Outcome) (h : o' = o) : catchKey o' = catchKey o := by rw [h]

theorem Rules.lookup_defined (rs : Rules) (n : Str) (t : Tree) (h : afind n rs.entries = some t) :
    rs.lookup n = some t := by simp only [Rules.lookup, h]

theorem evalRef_succ (rs : Rules) (leaf) (n : Nat) (m : Str) :
    evalRef rs leaf (n + 1) m =
      match rs.lookup m with
      | none => .ret false
      | some t => catchKey (evalTree leaf (evalRef rs leaf n) t) := by
  simp only [evalRef]
  cases rs.lookup m with
  | none => rfl
  | some t => simp only []; cases evalTree leaf (evalRef rs leaf n) t with
    | ret b => rfl
    | raise x => cases x <;> rfl

theorem evalRef_mono (rs : Rules) (leaf) : ∀ (n : Nat) (m : Str),
    evalRef rs leaf n m ≠ .raise .recursion → evalRef rs leaf (n + 1) m = evalRef rs leaf n m := by
  intro n
  induction n with
  | zero => intro m h; exact absurd rfl h
  | succ n ih =>
    intro m h
    rw [evalRef_succ] at h
    rw [evalRef_succ rs leaf (n + 1), evalRef_succ rs leaf n]
    cases hl : rs.lookup m with
    | none => rfl
    | some t =>
      simp only [hl] at h ⊢
      rw [evalTree_mono leaf _ _ ih t (mt catchKey_eq_rec.2 h)]

theorem evalRef_stable (rs : Rules) (leaf) (n k : Nat) (m : Str)
    (h : evalRef rs leaf n m ≠ .raise .recursion) : evalRef rs leaf (n + k) m = evalRef rs leaf n m := by
  induction k with
  | zero => rfl
  | succ k ih =>
    rw [← Nat.add_assoc, evalRef_mono rs leaf (n + k) m (by rw [ih]; exact h), ih]

theorem eval_mono (rs : Rules) (leaf) (n : Nat) (t : Tree)
    (h : eval rs leaf n t ≠ .raise .recursion) : eval rs leaf (n + 1) t = eval rs leaf n t :=
  evalTree_mono leaf _ _ (evalRef_mono rs leaf n) t h

/-- An exception that comes out of a tree was raised by one of its references or by a leaf:
the nodes raise nothing of their own. -/
theorem evalTree_raise (leaf : Str → Str → Outcome) (r : Str → Outcome) (x : Exn) (t : Tree)
    (h : evalTree leaf r t = .raise x) :
    (∃ m ∈ refsTree t, r m = .raise x) ∨ ∃ k m, leaf k m = .raise x := by
  induction t using Tree.induction with
  | tt | ff | and_nil | or_nil => cases h
  | chk k m =>
    rw [evalTree] at h
    split at h
    · next hk => exact .inl ⟨m, by simp [refsTree, ruleKind, hk], h⟩
    · exact .inr ⟨k, m, h⟩
  | not t ih =>
    cases hv : evalTree leaf r t with
    | ret b => rw [evalTree_not_ret _ _ hv] at h; cases h
    | raise y => rw [evalTree_not_raise _ _ hv] at h; exact ih (hv.trans h)
  | and_cons t ts ih ihs =>
    simp only [refsTree, refsList, List.mem_append] at ihs ⊢
    by_cases hv : evalTree leaf r t = .ret true
    · rw [evalTree_and_next _ _ ts hv] at h
      exact (ihs h).imp (.imp fun _ hm => ⟨.inr hm.1, hm.2⟩) id
    · rw [evalTree_and_stop _ _ ts hv] at h
      exact (ih h).imp (.imp fun _ hm => ⟨.inl hm.1, hm.2⟩) id
  | or_cons t ts ih ihs =>
    simp only [refsTree, refsList, List.mem_append] at ihs ⊢
    by_cases hv : evalTree leaf r t = .ret false
    · rw [evalTree_or_next _ _ ts hv] at h
      exact (ihs h).imp (.imp fun _ hm => ⟨.inr hm.1, hm.2⟩) id
    · rw [evalTree_or_stop _ _ ts hv] at h
      exact (ih h).imp (.imp fun _ hm => ⟨.inl hm.1, hm.2⟩) id

theorem evalRef_ne_key (rs : Rules) (leaf) (n : Nat) (m : Str) :
    evalRef rs leaf n m ≠ .raise .keyError := by
  cases n with
  | zero => simp [evalRef]
  | succ n =>
    rw [evalRef_succ]
    cases rs.lookup m with
    | none => simp
    | some t => exact catchKey_ne_key _

theorem evalTree_ne_key (leaf) (r : Str → Outcome) (hl : NoKey leaf) (hr : ∀ m, r m ≠ .raise .keyError)
    (t : Tree) : evalTree leaf r t ≠ .raise .keyError := fun h =>
  (evalTree_raise leaf r _ t h).elim (fun ⟨m, _, e⟩ => hr m e) fun ⟨k, m, e⟩ => hl k m e

theorem evalAll_ne_key (leaf) (r : Str → Outcome) (hl : NoKey leaf) (hr : ∀ m, r m ≠ .raise .keyError) :
    (ts : List Tree) → evalAll leaf r ts ≠ .raise .keyError :=
  fun ts => by simpa only [evalTree] using evalTree_ne_key leaf r hl hr (.and ts)

theorem evalAny_ne_key (leaf) (r : Str → Outcome) (hl : NoKey leaf) (hr : ∀ m, r m ≠ .raise .keyError) :
    (ts : List Tree) → evalAny leaf r ts ≠ .raise .keyError :=
  fun ts => by simpa only [evalTree] using evalTree_ne_key leaf r hl hr (.or ts)

end OsloPolicy
