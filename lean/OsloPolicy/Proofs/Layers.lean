import OsloPolicy.Spec.Layers
import OsloPolicy.Proofs.Assoc
/-
C09 / C11: lookups in what the loader builds, against `Spec/Layers.lean`: a fold of files is
characterised by `lastDef`, the defaults merge by "own binding, else first registered default",
`sortByName` sorts by the library's order on `List Char`.
-/
namespace OsloPolicy

/-- One file applied to a store: the common shape of `updStore` (`f := parseValue`) and
`updFileRules` (`f := id`). -/
theorem afind_foldl_ainsert {β} (f : JVal → β) (c : Content) (s : List (Str × β)) (n : Str) :
    afind n (c.foldl (fun acc p => ainsert p.1 (f p.2) acc) s) =
      match alast n c with | some v => some (f v) | none => afind n s := by
  induction c generalizing s with
  | nil => rfl
  | cons p r ih =>
    simp only [List.foldl_cons, ih, alast]
    cases alast n r with
    | some v' => rfl
    | none => simp only [afind_ainsert]; split <;> rfl

theorem afind_foldl_layers {β} (f : JVal → β) (ls : List Content) (s : List (Str × β)) (n : Str) :
    afind n (ls.foldl (fun s c => c.foldl (fun acc p => ainsert p.1 (f p.2) acc) s) s) =
      match lastDef n ls with | some v => some (f v) | none => afind n s := by
  induction ls generalizing s with
  | nil => rfl
  | cons c r ih =>
    simp only [List.foldl_cons, ih, lastDef]
    cases lastDef n r with
    | some v => rfl
    | none => exact afind_foldl_ainsert f c s n

theorem afind_filesRules (fs : FS) (n : Str) :
    afind n (filesRules fs) = lastDef n (fileLayers fs) :=
  (afind_foldl_layers id _ [] n).trans (by cases lastDef n (fileLayers fs) <;> rfl)

theorem afind_filesStore (fs : FS) (n : Str) :
    afind n (filesStore fs) = (afind n (filesRules fs)).map parseValue := by
  rw [afind_filesRules]
  exact (afind_foldl_layers parseValue _ [] n).trans (by cases lastDef n (fileLayers fs) <;> rfl)

theorem mergeDefaults_nil (en fr s) : mergeDefaults en fr [] s = s := rfl

theorem mergeDefaults_cons (en fr d regs s) :
    mergeDefaults en fr (d :: regs) s =
      mergeDefaults en fr regs
        (if (afind d.name s).isSome then s else ainsert d.name (defaultCheck en fr d) s) := rfl

theorem mergeDefaults_append (en : Bool) (fr : Content) (r1 r2 : List RuleDefault) (s : Store) :
    mergeDefaults en fr (r1 ++ r2) s = mergeDefaults en fr r2 (mergeDefaults en fr r1 s) :=
  List.foldl_append

theorem compute_append (en : Bool) (r1 r2 : List RuleDefault) (fs : FS) :
    compute en (r1 ++ r2) fs = mergeDefaults en (filesRules fs) r2 (compute en r1 fs) :=
  mergeDefaults_append ..

theorem afind_mergeDefaults (en : Bool) (fr : Content) (regs : List RuleDefault)
    (rules : Store) (n : Str) :
    afind n (mergeDefaults en fr regs rules) =
      match afind n rules with
      | some t => some t
      | none => (regs.find? (·.name = n)).map (defaultCheck en fr) := by
  induction regs generalizing rules with
  | nil => show afind n rules = _; cases afind n rules <;> rfl
  | cons d r ih =>
    rw [mergeDefaults_cons, ih, List.find?_cons, apply_ite (afind n), afind_ainsert]
    by_cases hn : d.name = n
    · subst hn; cases h : afind d.name rules <;> simp
    · simp [hn]

theorem mergeDefaults_mem (en fr) (regs : List RuleDefault) (s : Store) (d : RuleDefault)
    (hd : d ∈ regs) : (afind d.name (mergeDefaults en fr regs s)).isSome = true := by
  rw [afind_mergeDefaults]
  cases afind d.name s with
  | some t => rfl
  | none => simpa using ⟨d, hd, rfl⟩

theorem mergeDefaults_fix (en fr) (regs : List RuleDefault) (s : Store)
    (h : ∀ d ∈ regs, (afind d.name s).isSome = true) : mergeDefaults en fr regs s = s := by
  induction regs with
  | nil => rfl
  | cons d regs ih =>
    rw [mergeDefaults_cons, if_pos (h d (List.mem_cons_self ..))]
    exact ih fun d' hd' => h d' (List.mem_cons_of_mem _ hd')

theorem mergeDefaults_idem (en : Bool) (fr : Content) (regs : List RuleDefault) (rules : Store) :
    mergeDefaults en fr regs (mergeDefaults en fr regs rules) = mergeDefaults en fr regs rules :=
  mergeDefaults_fix _ _ _ _ fun d hd => mergeDefaults_mem _ _ _ _ d hd

theorem find?_name_of_unique (regs : List RuleDefault) (d : RuleDefault)
    (hd : d ∈ regs) (huniq : ∀ d' ∈ regs, d'.name = d.name → d' = d) :
    regs.find? (·.name = d.name) = some d := by
  cases h : regs.find? (·.name = d.name) with
  | none => simpa using List.find?_eq_none.1 h d hd
  | some x => rw [huniq x (List.mem_of_find?_eq_some h) (by simpa using List.find?_some h)]

/-- `strLt` is the library's lexicographic order on lists of characters -/
theorem strLt_iff (a b : Str) : strLt a b = true ↔ a < b := by
  fun_induction strLt a b with
  | case1 | case2 | case3 => simp
  | case4 a as b bs ih =>
    have : a.toNat < b.toNat ↔ a < b := Iff.rfl
    simp [List.cons_lt_cons_iff, ih, this, Char.toNat_inj]

theorem strLt_eq_false (a b : Str) : strLt a b = false ↔ b ≤ a := by
  rw [← Bool.not_eq_true, strLt_iff, List.not_lt]

theorem insertByName_perm (e : Entry) (l : List Entry) : (insertByName e l).Perm (e :: l) := by
  fun_induction insertByName e l with
  | case1 | case2 => exact .refl _
  | case3 x r _ ih => exact (ih.cons x).trans (.swap e x r)

theorem sortByName_perm (l : List Entry) : (sortByName l).Perm l := by
  induction l with
  | nil => exact .refl _
  | cons x r ih => exact (insertByName_perm x _).trans (ih.cons x)

theorem insertByName_sorted (e : Entry) (l : List Entry)
    (h : l.Pairwise (fun a b => strLt b.name a.name = false)) :
    (insertByName e l).Pairwise (fun a b => strLt b.name a.name = false) := by
  simp only [strLt_eq_false] at h ⊢
  fun_induction insertByName e l with
  | case1 => exact List.pairwise_singleton ..
  | case2 x r hlt =>
    -- `e` goes in front: it is below `x`, which is below the rest
    have hex := List.le_of_lt ((strLt_iff ..).1 hlt)
    exact List.pairwise_cons.2 ⟨fun b hb => (List.mem_cons.1 hb).elim (· ▸ hex)
      fun hb => List.le_trans hex (List.rel_of_pairwise_cons h hb), h⟩
  | case3 x r hlt ih =>
    rw [List.pairwise_cons] at h
    refine List.pairwise_cons.2 ⟨fun b hb => ?_, ih h.2⟩
    rcases List.mem_cons.1 ((insertByName_perm e r).mem_iff.1 hb) with rfl | hb
    · exact (strLt_eq_false ..).1 (Bool.eq_false_iff.2 hlt)
    · exact h.1 b hb

theorem sortByName_sorted (l : List Entry) :
    (sortByName l).Pairwise (fun a b => strLt b.name a.name = false) := by
  induction l with
  | nil => exact .nil
  | cons x r ih => exact insertByName_sorted x _ ih

/-- `governs` is what the loader installs: the file's own definition, else `defaultCheck`. -/
theorem governs_cases (enforceNew : Bool) (fr : Content) (d : RuleDefault) :
    governs enforceNew fr d = (match afind d.name fr with
      | some v => parseValue v
      | none => defaultCheck enforceNew fr d) := by
  unfold governs defaultCheck
  cases hfr : afind d.name fr with
  | some v => rfl
  | none =>
    cases d.deprecated with
    | none => rfl
    | some old =>
      simp only [handleDeprecated, hfr, Option.isNone_none, Bool.and_true, and_true]
      by_cases ho : old.1 = d.name
      · simp [ho]
      · cases afind old.1 fr with
        | none => simp [ho]
        | some v => by_cases hp : (parseValue v).print = rulePrefix ++ d.name <;> simp [ho, hp]

theorem pickDefault_spec (i : PickInput) :
    pickDefault i =
      if i.value = policyYaml ∧ i.fallback = true ∧ i.neverConfigured = true ∧
          i.yamlExists = false ∧ i.jsonExists = true then policyJson else i.value := by
  unfold pickDefault
  cases i.yamlExists <;> cases i.neverConfigured <;> cases i.jsonExists <;> simp

end OsloPolicy
