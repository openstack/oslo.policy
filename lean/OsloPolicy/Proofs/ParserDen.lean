import OsloPolicy.Proofs.ParserComplete
/-
The tree built for a sentence denotes what the precedence rules say — including the
flattening performed by the re-balancing reducer (`_mix_or_and_expr`).
-/
namespace OsloPolicy

theorem denAll_eq (ρ ts) : denAll ρ ts = ts.all (Tree.den ρ) := by
  induction ts with
  | nil => simp [denAll]
  | cons t ts ih => simp [denAll, ih]

theorem denAny_eq (ρ ts) : denAny ρ ts = ts.any (Tree.den ρ) := by
  induction ts with
  | nil => simp [denAny]
  | cons t ts ih => simp [denAny, ih]

theorem den_and (ρ ts) : Tree.den ρ (.and ts) = ts.all (Tree.den ρ) := by
  simp [Tree.den, denAll_eq]
theorem den_or (ρ ts) : Tree.den ρ (.or ts) = ts.any (Tree.den ρ) := by
  simp [Tree.den, denAny_eq]

/-- `andOf` / `orOf` (a single member is returned as is) denote AND / OR of their members. -/
theorem andOf_den (ρ) : (ts : List Tree) → (andOf ts).den ρ = ts.all (Tree.den ρ)
  | [] | _ :: _ :: _ => den_and ρ _
  | [t] => by simp [andOf]
theorem orOf_den (ρ) : (ts : List Tree) → (orOf ts).den ρ = ts.any (Tree.den ρ)
  | [] => rfl
  | [t] => by simp [orOf]
  | _ :: _ :: _ => den_or ρ _

theorem toOrList_den (ρ) (X : Ent) : (toOrList X).any (Tree.den ρ) = Tree.den ρ (entTree X) := by
  cases X <;> simp [toOrList, entTree, den_and, den_or] <;> rfl

theorem andJoin_den (ρ) (f c : Tree) :
    Tree.den ρ (andJoin f c) = (Tree.den ρ f && Tree.den ρ c) := by
  cases f <;> simp [andJoin, den_and]

theorem foldl_andJoin_den (ρ) (f : Tree) (rest : List Tree) :
    Tree.den ρ (rest.foldl andJoin f) = (Tree.den ρ f && rest.all (Tree.den ρ)) := by
  induction rest generalizing f with
  | nil => simp
  | cons c rest ih => simp only [List.foldl_cons, ih, andJoin_den, List.all_cons, Bool.and_assoc]

theorem orCtx_den (ρ) (X : Ent) (ops : List Tree) (hne : ops ≠ []) :
    Tree.den ρ (entTree (orCtx X ops)) = (Tree.den ρ (entTree X) || ops.all (Tree.den ρ)) := by
  match ops, hne with
  | f :: rest, _ =>
    simp only [orCtx_cons, entTree, den_or, List.any_append, toOrList_den, List.any_cons,
      List.any_nil, Bool.or_false, foldl_andJoin_den, List.all_cons]

theorem den_sem (ρ) :
    (∀ e : E 0, Tree.den ρ (entTree (sem0 e)) = e.den ρ) ∧
    (∀ e : E 1, (sem1 e).all (Tree.den ρ) = e.den ρ) ∧
    (∀ e : E 2, Tree.den ρ (sem2 e) = e.den ρ) := by
  apply E.strata
  · intro t; simp [sem2, E.den]
  · intro e ih; simp [sem2, E.den, ih]
  · intro e ih; simp [sem2, E.den, Tree.den, ih]
  · intro e ih; simp [sem1, E.den, ih]
  · intro a b iha ihb; simp [sem1, E.den, iha, ihb]
  · intro e ih; simp [sem0, E.den, entTree_ent1, andOf_den, ih]
  · intro l r ihl ihr
    simp only [sem0, E.den, orCtx_den ρ _ _ (sem1_ne r), ihl, ihr]

theorem den2 (ρ) : (e : E 2) → Tree.den ρ (sem2 e) = e.den ρ := (den_sem ρ).2.2

theorem den1 (ρ) : (e : E 1) → (sem1 e).all (Tree.den ρ) = e.den ρ := (den_sem ρ).2.1

theorem build_den (ρ) (e : E 0) : (build e).den ρ = e.den ρ := (den_sem ρ).1 e

/-! ### The list syntax -/

theorem parseListRule_arr (xs : List JVal) (t : Str) :
    parseListRule (.arr xs t) = if xs.all (fun x => (innerStrings x).isSome) then
      (if xs.isEmpty then .tt else orOf (listRuleMembers xs)) else .ff := by
  rw [parseListRule, listRuleShape]
  cases xs.all fun x => (innerStrings x).isSome <;> rfl

/-- what `_parse_list_rule` makes of one member of the outer list (`none`: skipped) -/
def listMember (x : JVal) : Option Tree :=
  if !x.truthy then none else (innerStrings x).map fun ss => andOf (ss.map parseCheck)

theorem listRuleMembers_eq (xs : List JVal) : listRuleMembers xs = xs.filterMap listMember := by
  induction xs with
  | nil => rfl
  | cons x r ih =>
    rw [listRuleMembers, List.filterMap_cons, listMember, ih]
    cases x.truthy <;> cases innerStrings x <;> rfl

end OsloPolicy
