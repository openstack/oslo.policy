import OsloPolicy.Proofs.LexLayout
/-
The printer's output `str(tree)` is a layout (single spaces, parentheses glued to the
neighbouring word) of `printToks tree`; hence the tokenizer reads it back as `printToks`.

A non-empty layout whose last separator is empty is kept as a pair `(init, w)`: the inner
words, each followed by a non-empty separator, and the last word (`Lay`).
-/
namespace OsloPolicy

theorem splitColon_append (k m : Str) (h : ':' ∉ k) : splitColon (k ++ ':' :: m) = some (k, m) := by
  induction k with
  | nil => simp [splitColon]
  | cons a r ih =>
    have ha : a ≠ ':' := fun e => h (by simp [e])
    have hr : ':' ∉ r := fun e => h (by simp [e])
    simp [splitColon, ha, ih hr]

theorem parseCheck_chk (k m : Str) (h : ':' ∉ k) : parseCheck (k ++ ':' :: m) = .chk k m := by
  have hmem : ':' ∈ k ++ ':' :: m := by simp
  have h1 : k ++ ':' :: m ≠ ['!'] := by
    intro e; rw [e] at hmem; revert hmem; decide
  have h2 : k ++ ':' :: m ≠ ['@'] := by
    intro e; rw [e] at hmem; revert hmem; decide
  simp only [parseCheck, if_neg h1, if_neg h2, splitColon_append k m h]

theorem parseCheck_tt : parseCheck ['@'] = .tt := by simp [parseCheck]
theorem parseCheck_ff : parseCheck ['!'] = .ff := by simp [parseCheck]

/-- inner words: each one is followed by a non-empty separator -/
def Inner (init : List (Word × Str)) : Prop := ∀ p ∈ init, p.1.WF ∧ IsSep p.2 ∧ p.2 ≠ []

def spellI (init : List (Word × Str)) : Str := init.flatMap (fun p => p.1.chars ++ p.2)
def toksI (init : List (Word × Str)) : List Tok := init.flatMap (fun p => p.1.toks)

/-- text `s` is a layout, ending in a word, that spells `ts` -/
def Lay (s : Str) (ts : List Tok) : Prop :=
  ∃ (init : List (Word × Str)) (w : Word),
    Inner init ∧ w.WF ∧ spellI init ++ w.chars = s ∧ toksI init ++ w.toks = ts

theorem LayoutOK_snoc (init : List (Word × Str)) (w : Word) (s : Str) (hi : Inner init)
    (hw : w.WF) (hs : IsSep s) : LayoutOK (init ++ [(w, s)]) := by
  induction init with
  | nil => exact ⟨hw, hs⟩
  | cons p r ih =>
    have hp := hi p (by simp)
    exact (LayoutOK_cons p.1 p.2 _).2
      ⟨hp.1, hp.2.1, .inl hp.2.2, ih fun q hq => hi q (by simp [hq])⟩

theorem isSep_space : IsSep [' '] := by
  intro c hc
  simp only [List.mem_singleton] at hc
  subst hc; decide

theorem Word.chars_lead_succ (l t : Nat) (c : Core) :
    Word.chars ⟨l + 1, c, t⟩ = '(' :: Word.chars ⟨l, c, t⟩ := by
  simp [Word.chars, List.replicate_succ]

theorem Word.chars_trail_succ (l t : Nat) (c : Core) :
    Word.chars ⟨l, c, t + 1⟩ = Word.chars ⟨l, c, t⟩ ++ [')'] := by
  simp [Word.chars, List.replicate_succ']

theorem Word.toks_lead_succ (l t : Nat) (c : Core) :
    Word.toks ⟨l + 1, c, t⟩ = .lp :: Word.toks ⟨l, c, t⟩ := by
  simp [Word.toks, List.replicate_succ]

theorem Word.toks_trail_succ (l t : Nat) (c : Core) :
    Word.toks ⟨l, c, t + 1⟩ = Word.toks ⟨l, c, t⟩ ++ [.rp] := by
  simp [Word.toks, List.replicate_succ']

theorem Word.WF.grow {l t : Nat} {c : Core} (h : Word.WF ⟨l, c, t⟩) (i j : Nat) :
    Word.WF ⟨l + i, c, t + j⟩ := by
  refine ⟨h.1, fun e => h.2 ?_⟩
  simp only [Word.chars, List.append_eq_nil_iff, List.replicate_eq_nil_iff] at e ⊢
  exact ⟨⟨by omega, e.1.2⟩, by omega⟩

theorem Lay.word {w : Word} (h : w.WF) : Lay w.chars w.toks :=
  ⟨[], w, by simp [Inner], h, by simp [spellI], by simp [toksI]⟩

theorem Lay.leaf {s : Str} (h : CleanLeaf s) : Lay s [.chk (parseCheck s)] := by
  simpa [Word.chars, Core.chars, Word.toks, Core.toks] using
    Lay.word (w := ⟨0, .leaf s, 0⟩) ⟨h, by simpa [Word.chars, Core.chars] using h.1⟩

theorem Lay.kw {k : Tok} {sp : Str} (hk : (Core.kw k sp).WF) : Lay sp [k] := by
  simpa [Word.chars, Core.chars, Word.toks, Core.toks] using
    Lay.word (w := ⟨0, .kw k sp, 0⟩) ⟨hk, by simpa [Word.chars, Core.chars] using hk.kw_chars.1⟩

theorem Lay.append {s1 s2 : Str} {t1 t2 : List Tok} (h1 : Lay s1 t1) (h2 : Lay s2 t2) :
    Lay (s1 ++ ' ' :: s2) (t1 ++ t2) := by
  obtain ⟨i1, w1, hi1, hw1, rfl, rfl⟩ := h1
  obtain ⟨i2, w2, hi2, hw2, rfl, rfl⟩ := h2
  refine ⟨i1 ++ (w1, [' ']) :: i2, w2, ?_, hw2, by simp [spellI], by simp [toksI]⟩
  intro p hp
  rcases List.mem_append.1 hp with hp | hp
  · exact hi1 p hp
  · rcases List.mem_cons.1 hp with rfl | hp
    · exact ⟨hw1, isSep_space, by simp⟩
    · exact hi2 p hp

/-- The opening parenthesis is glued to the first word, which is the last one when there is
no inner word. -/
theorem Lay.paren {s : Str} {t : List Tok} (h : Lay s t) :
    Lay ('(' :: s ++ [')']) (.lp :: t ++ [.rp]) := by
  obtain ⟨i, ⟨l, c, tr⟩, hi, hw, rfl, rfl⟩ := h
  cases i with
  | nil =>
    exact ⟨[], ⟨l + 1, c, tr + 1⟩, by simp [Inner], hw.grow 1 1,
      by simp [spellI, Word.chars_lead_succ, Word.chars_trail_succ],
      by simp [toksI, Word.toks_lead_succ, Word.toks_trail_succ]⟩
  | cons p r =>
    obtain ⟨⟨l0, c0, t0⟩, s0⟩ := p
    have hp := hi _ (List.mem_cons_self)
    refine ⟨(⟨l0 + 1, c0, t0⟩, s0) :: r, ⟨l, c, tr + 1⟩, ?_, hw.grow 0 1,
      by simp [spellI, Word.chars_lead_succ, Word.chars_trail_succ],
      by simp [toksI, Word.toks_lead_succ, Word.toks_trail_succ]⟩
    intro q hq
    rcases List.mem_cons.1 hq with rfl | hq
    · exact ⟨hp.1.grow 1 0, hp.2⟩
    · exact hi q (by simp [hq])

theorem Lay.tokenize {s : Str} {t : List Tok} (h : Lay s t) : tokenize s = t := by
  obtain ⟨i, w, hi, hw, rfl, rfl⟩ := h
  have := tokenize_spell [] (i ++ [(w, [])]) (by simp [IsSep])
    (LayoutOK_snoc i w [] hi hw (by simp [IsSep]))
  simpa [spell, spellI, toksI] using this

theorem kwAnd_WF : (Core.kw .kAnd "and".toList).WF := .inl ⟨rfl, by decide⟩
theorem kwOr_WF : (Core.kw .kOr "or".toList).WF := .inr (.inl ⟨rfl, by decide⟩)
theorem kwNot_WF : (Core.kw .kNot "not".toList).WF := .inr (.inr ⟨rfl, by decide⟩)

mutual
theorem print_lay : (t : Tree) → WFT t → Lay t.print (printToks t)
  | .tt, _ => Lay.leaf (s := ['@']) (by unfold CleanLeaf; decide)
  | .ff, _ => Lay.leaf (s := ['!']) (by unfold CleanLeaf; decide)
  | .chk k m, ⟨hc, hk⟩ => by
    have := Lay.leaf hc
    rwa [parseCheck_chk k m hk] at this
  | .not t, h => by
    simpa [Tree.print, printToks] using (Lay.kw kwNot_WF).append (print_lay t h)
  | .and [], h | .or [], h => absurd h.1 (by simp)
  | .and (t :: ts), ⟨_, h⟩ => by
    simpa [Tree.print, printToks] using (printList_lay .kAnd "and".toList kwAnd_WF (t :: ts) nofun h).paren
  | .or (t :: ts), ⟨_, h⟩ => by
    simpa [Tree.print, printToks] using (printList_lay .kOr "or".toList kwOr_WF (t :: ts) nofun h).paren
theorem printList_lay (k : Tok) (sp : Str) (hk : (Core.kw k sp).WF) :
    (ts : List Tree) → ts ≠ [] → WFTs ts →
      Lay (joinWith (' ' :: sp ++ [' ']) (printList ts)) (sepToks k ts)
  | [], h, _ => absurd rfl h
  | [t], _, ⟨ht, _⟩ => by
    simpa [printList, joinWith, sepToks] using print_lay t ht
  | t :: u :: r, _, ⟨ht, hr⟩ => by
    simpa [printList, joinWith, sepToks] using
      (print_lay t ht).append ((Lay.kw hk).append (printList_lay k sp hk (u :: r) nofun hr))
end

theorem tokenize_print (t : Tree) (h : WFT t) : tokenize t.print = printToks t :=
  (print_lay t h).tokenize

end OsloPolicy
