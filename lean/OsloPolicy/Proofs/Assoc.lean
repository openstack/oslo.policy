import OsloPolicy.Model.Basic
/-
Association lists as Python dicts.  Nothing assumes that keys are unique: every statement is
about `afind` (first match), and `ainsert k` replaces the *first* binding of `k`, so the two
agree on arbitrary lists.
-/
namespace OsloPolicy

theorem afind_ainsert {α} (k n : Str) (v : α) (l : List (Str × α)) :
    afind n (ainsert k v l) = if k = n then some v else afind n l := by
  fun_induction ainsert k v l with
  | case1 => rfl
  | case2 => simp only [afind]; split <;> rfl
  | case3 k' _ _ h ih =>
    simp only [afind, ih]
    split
    · next h' => rw [if_neg (fun e => h (h'.trans e.symm))]
    · rfl

theorem afind_ainsert_self {α} (k : Str) (v : α) (l : List (Str × α)) :
    afind k (ainsert k v l) = some v := by
  rw [afind_ainsert, if_pos rfl]

theorem afind_ainsert_other {α} (k k' : Str) (v : α) (l : List (Str × α)) (h : k' ≠ k) :
    afind k' (ainsert k v l) = afind k' l := by
  rw [afind_ainsert, if_neg (Ne.symm h)]

theorem afind_some_mem {α} (n : Str) (l : List (Str × α)) (v : α) (h : afind n l = some v) :
    (n, v) ∈ l := by
  fun_induction afind n l with
  | case1 => cases h
  | case2 => cases h; exact List.mem_cons_self ..
  | case3 _ _ _ _ ih => exact List.mem_cons_of_mem _ (ih h)

theorem afind_mem_keys {α} (m : Str) (rs : List (Str × α)) (t : α) (h : afind m rs = some t) :
    m ∈ rs.map (·.1) :=
  List.mem_map.2 ⟨(m, t), afind_some_mem m rs t h, rfl⟩

/-- `d[k] = v` when `d[k]` is `v` already changes nothing -/
theorem ainsert_same {α} (k : Str) (v : α) (l : List (Str × α)) (h : afind k l = some v) :
    ainsert k v l = l := by
  fun_induction ainsert k v l with
  | case1 => cases h
  | case2 => simp only [afind, if_true] at h; cases h; rfl
  | case3 _ _ _ hk ih => simp only [afind, if_neg hk] at h; rw [ih h]

/-- `afind` is `List.find?` on the keys: the way to the library's lemmas about `find?` -/
theorem afind_eq_find? {α} (n : Str) (l : List (Str × α)) : afind n l = (l.find? (·.1 = n)).map (·.2) := by
  induction l with
  | nil => rfl
  | cons p r ih => by_cases h : p.1 = n <;> simp [afind, h, ih]

theorem afind_append {α} (n : Str) (l₁ l₂ : List (Str × α)) :
    afind n (l₁ ++ l₂) = (afind n l₁).or (afind n l₂) := by
  simp only [afind_eq_find?, List.find?_append, Option.map_or]

/-- lookup in a list of pairs computed from a list of records -/
theorem afind_map {α β} (key : β → Str) (val : β → α) (n : Str) (l : List β) :
    afind n (l.map fun d => (key d, val d)) = (l.find? (key · = n)).map val := by
  simp only [afind_eq_find?, List.find?_map, Option.map_map]
  rfl

/-! ### filtering an association list -/

theorem afind_filter_of_none {α} {p : Str × α → Bool} {n : Str} {l : List (Str × α)}
    (h : afind n l = none) : afind n (l.filter p) = none := by
  simp only [afind_eq_find?, Option.map_eq_none_iff, List.find?_eq_none, List.mem_filter] at h ⊢
  exact fun a ha => h a ha.1

theorem afind_filter_of_pos {α} {p : Str × α → Bool} {n : Str} {v : α} {l : List (Str × α)}
    (h : afind n l = some v) (hp : p (n, v) = true) : afind n (l.filter p) = some v := by
  fun_induction afind n l with
  | case1 => cases h
  | case2 => cases h; rw [List.filter_cons_of_pos hp, afind, if_pos rfl]
  | case3 k w r hk ih =>
    rw [List.filter_cons]
    split
    · rw [afind, if_neg hk, ih h]
    · exact ih h

/-- with unique keys, a binding that fails the filter uncovers no other -/
theorem afind_filter_of_neg {α} {p : Str × α → Bool} {n : Str} {v : α} {l : List (Str × α)}
    (hnd : (l.map (·.1)).Nodup) (h : afind n l = some v) (hp : p (n, v) = false) :
    afind n (l.filter p) = none := by
  fun_induction afind n l with
  | case1 => rfl
  | case2 w r =>
    cases h
    rw [List.filter_cons_of_neg (by simp [hp])]
    refine afind_filter_of_none ?_
    cases hr : afind n r with
    | none => rfl
    | some u => exact absurd (afind_mem_keys n r u hr) (List.nodup_cons.1 hnd).1
  | case3 k w r hk ih =>
    have ih := ih (List.nodup_cons.1 hnd).2 h
    rw [List.filter_cons]
    split
    · rw [afind, if_neg hk, ih]
    · exact ih

end OsloPolicy
