import OsloPolicy.Model.Tree
namespace OsloPolicy

/-- Induction on check trees with one motive: the members of an `and` / `or` node are taken
one at a time, so a statement about trees needs no companion about lists of trees (the list
forms are its instances at `.and ts` and `.or ts`). -/
theorem Tree.induction {P : Tree → Prop} (tt : P .tt) (ff : P .ff) (chk : ∀ k m, P (.chk k m))
    (not : ∀ t, P t → P (.not t))
    (and_nil : P (.and [])) (and_cons : ∀ t ts, P t → P (.and ts) → P (.and (t :: ts)))
    (or_nil : P (.or [])) (or_cons : ∀ t ts, P t → P (.or ts) → P (.or (t :: ts))) (t : Tree) : P t :=
  Tree.rec (motive_1 := P) (motive_2 := fun ts => P (.and ts) ∧ P (.or ts)) tt ff chk not
    (fun _ h => h.1) (fun _ h => h.2) ⟨and_nil, or_nil⟩
    (fun t ts h hs => ⟨and_cons t ts h hs.1, or_cons t ts h hs.2⟩) t

end OsloPolicy
