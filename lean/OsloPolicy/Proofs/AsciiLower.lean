import OsloPolicy.Model.Lexer
namespace OsloPolicy

theorem toNat_charOfNat {n : Nat} (h : n < 0xd800) : (Char.ofNat n).toNat = n := by
  rw [Char.ofNat, dif_pos (Or.inl h)]; rfl

/-- `asciiLower` on code points: `A`–`Z` (65–90) move up by 32, everything else stays. -/
theorem asciiLower_toNat (c : Char) :
    (asciiLower c).toNat = if 65 ≤ c.toNat ∧ c.toNat ≤ 90 then c.toNat + 32 else c.toNat := by
  have h : ('A' ≤ c ∧ c ≤ 'Z') ↔ (65 ≤ c.toNat ∧ c.toNat ≤ 90) := by
    simp only [Char.le_def, UInt32.le_iff_toNat_le]; rfl
  unfold asciiLower
  by_cases hc : 65 ≤ c.toNat ∧ c.toNat ≤ 90
  · rw [if_pos (h.2 hc), if_pos hc, toNat_charOfNat (by omega)]
  · rw [if_neg (mt h.1 hc), if_neg hc]

end OsloPolicy
