import OsloPolicy.Spec.Grammar
import OsloPolicy.Proofs.TreeInd
import OsloPolicy.Model.Eval
/-
Link between the evaluator (which short-circuits and propagates exceptions) and the
Boolean denotation: when every leaf returns a decision, the tree evaluates to its
denotation.
-/
namespace OsloPolicy

/-- The valuation induced by leaf and reference evaluators. -/
def valOf (ρ : Str → Str → Bool) (leaf : Str → Str → Outcome) (ref : Str → Outcome) : Prop :=
  (∀ k m, k ≠ "rule".toList → leaf k m = .ret (ρ k m)) ∧ (∀ m, ref m = .ret (ρ "rule".toList m))

theorem evalTree_den (ρ leaf ref) (h : valOf ρ leaf ref) (t : Tree) :
    evalTree leaf ref t = .ret (t.den ρ) := by
  induction t using Tree.induction with
  | tt | ff | and_nil | or_nil => rfl
  | chk k m =>
    simp only [evalTree, Tree.den]
    split
    · next hk => subst hk; exact h.2 m
    · next hk => exact h.1 k m hk
  | not t ih => simp [evalTree, Tree.den, ih]
  | and_cons t ts ih ihs =>
    simp only [evalTree, Tree.den] at ihs
    simp only [evalTree, evalAll, Tree.den, denAll, ih, ihs]
    cases t.den ρ <;> rfl
  | or_cons t ts ih ihs =>
    simp only [evalTree, Tree.den] at ihs
    simp only [evalTree, evalAny, Tree.den, denAny, ih, ihs]
    cases t.den ρ <;> rfl

theorem evalAll_den (ρ leaf ref) (h : valOf ρ leaf ref) :
    (ts : List Tree) → evalAll leaf ref ts = .ret (denAll ρ ts) :=
  fun ts => by simpa only [evalTree, Tree.den] using evalTree_den ρ leaf ref h (.and ts)

theorem evalAny_den (ρ leaf ref) (h : valOf ρ leaf ref) :
    (ts : List Tree) → evalAny leaf ref ts = .ret (denAny ρ ts) :=
  fun ts => by simpa only [evalTree, Tree.den] using evalTree_den ρ leaf ref h (.or ts)

end OsloPolicy
