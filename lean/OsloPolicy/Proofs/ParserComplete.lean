import OsloPolicy.Spec.Grammar
import OsloPolicy.Proofs.Reduce
/-
The greedy shift-reduce parser accepts every sentence of the documented grammar and
leaves exactly `sem0 e` on its stack (simulation by induction on the grammar).
-/
namespace OsloPolicy

/-- Induction over the three levels of the grammar at once. -/
theorem E.strata {P0 : E 0 → Prop} {P1 : E 1 → Prop} {P2 : E 2 → Prop}
    (leaf : ∀ t, P2 (.leaf t)) (paren : ∀ e, P0 e → P2 (.paren e)) (not : ∀ e, P2 e → P2 (.not e))
    (up1 : ∀ e, P2 e → P1 (.up1 e)) (and : ∀ a b, P1 a → P2 b → P1 (.and a b))
    (up0 : ∀ e, P1 e → P0 (.up0 e)) (or : ∀ a b, P0 a → P1 b → P0 (.or a b)) :
    (∀ e, P0 e) ∧ (∀ e, P1 e) ∧ (∀ e, P2 e) := by
  have key : ∀ {n} (e : E n),
      match n, e with | 0, e => P0 e | 1, e => P1 e | 2, e => P2 e | _, _ => True := by
    intro n e
    induction e with
    | leaf t => exact leaf t
    | paren e ih => exact paren e ih
    | not e ih => exact not e ih
    | up1 e ih => exact up1 e ih
    | and a b iha ihb => exact and a b iha ihb
    | up0 e ih => exact up0 e ih
    | or a b iha ihb => exact or a b iha ihb
  exact ⟨fun e => key e, fun e => key e, fun e => key e⟩

/-- The entry an and-level sentence with these operands leaves: a lone operand stays a `check`. -/
def ent1 : List Tree → Ent
  | [x] => .chk x
  | ts => .andE ts

/-- The entry behind `l or …` once the and-operands `ops` have been read: the first starts or
extends the or-expression, every further one is mixed into its last member. -/
def orCtx (l : Ent) : List Tree → Ent
  | [] => l
  | f :: rest => .orE (rest.foldl mixLast (toOrList l ++ [f]))

mutual
/-- What the parser has on its stack after a sentence of each level: the tree of one `check`,
the operands of an and-expression, the entry of an or-expression. -/
def sem2 : E 2 → Tree
  | .leaf t => t
  | .paren e => entTree (sem0 e)
  | .not e => Tree.not (sem2 e)
def sem1 : E 1 → List Tree
  | .up1 e => [sem2 e]
  | .and a b => sem1 a ++ [sem2 b]
def sem0 : E 0 → Ent
  | .up0 e => ent1 (sem1 e)
  | .or l r => orCtx (sem0 l) (sem1 r)
end

/-- The tree the parser builds for a sentence. -/
def build (e : E 0) : Tree := entTree (sem0 e)

theorem ent1_at (l) : IsAT (ent1 l) := by
  unfold ent1; split <;> trivial

theorem reduce_chk_and_ent1 (t : Tree) {l : List Tree} (h : l ≠ []) (r : List Ent) :
    reduce (.chk t :: .kAnd :: ent1 l :: r) = ent1 (l ++ [t]) :: r := by
  match l, h with
  | [x], _ => exact reduce_chk_and t (.chk x) r trivial
  | x :: y :: l, _ => exact reduce_chk_and t (.andE _) r trivial

theorem orCtx_nt (X : Ent) {ops : List Tree} (h : ops ≠ []) : IsNT (orCtx X ops) := by
  match ops, h with
  | f :: rest, _ => trivial

/-- One more and-operand behind a non-empty or-context is mixed into its last member. -/
theorem orCtx_snoc (X : Ent) {ops : List Tree} (h : ops ≠ []) (c : Tree) :
    ∃ ts, orCtx X ops = .orE ts ∧ orCtx X (ops ++ [c]) = .orE (mixLast ts c) := by
  match ops, h with
  | f :: rest, _ => exact ⟨_, rfl, by simp [orCtx, List.foldl_append]⟩

/-- What `_mix_or_and_expr` makes of the popped member `f` and the new operand `c`. -/
def andJoin : Tree → Tree → Tree
  | .and as, c => .and (as ++ [c])
  | f, c => .and [f, c]

theorem mixLast_snoc (pre : List Tree) (f c : Tree) :
    mixLast (pre ++ [f]) c = pre ++ [andJoin f c] := by
  unfold mixLast
  rw [List.getLast?_concat, List.dropLast_concat]
  cases f <;> rfl

/-- Behind an `or` the and-operands are joined into one member, the last. -/
theorem orCtx_cons (X : Ent) (f : Tree) (rest : List Tree) :
    orCtx X (f :: rest) = .orE (toOrList X ++ [rest.foldl andJoin f]) := by
  rw [orCtx]
  induction rest generalizing f with
  | nil => rfl
  | cons c rest ih => rw [List.foldl_cons, mixLast_snoc, ih, List.foldl_cons]

/-- An and-expression on the stack stands for `andOf` of its operands. -/
theorem entTree_ent1 : (l : List Tree) → entTree (ent1 l) = andOf l
  | [] | [_] | _ :: _ :: _ => rfl

theorem sem1_ne : (e : E 1) → sem1 e ≠ []
  | .up1 e => by simp [sem1]
  | .and a b => by simp [sem1]

theorem sem0_nt (e : E 0) : IsNT (sem0 e) := by
  cases e with
  | up0 e => rw [sem0]; exact (ent1_at _).nt
  | or l r => rw [sem0]; exact orCtx_nt _ (sem1_ne r)

theorem run_append (st) (a b : List Tok) : run st (a ++ b) = run (run st a) b := by
  simp [run, List.foldl_append]

theorem run_cons (st) (a : Tok) (b : List Tok) : run st (a :: b) = run (shift st a) b := rfl
theorem run_nil (st) : run st [] = st := rfl

theorem result_nt {X : Ent} (h : IsNT X) : result [X] = some (entTree X) := by
  cases X <;> first | rfl | exact h.elim

/-- What running a sentence's tokens leaves on the stack, level by level: an atom is pushed
as one `chk` entry and reduced; an and-expression becomes `ent1` on a quiet stack and is
mixed into the or-expression behind an `or`; an or-expression becomes `sem0`. -/
theorem run_render :
    (∀ e : E 0, ∀ st, Quiet st → run st e.render = sem0 e :: st) ∧
    (∀ e : E 1, (∀ st, Quiet st → run st e.render = ent1 (sem1 e) :: st) ∧
      ∀ st X, IsNT X → run (.kOr :: X :: st) e.render = orCtx X (sem1 e) :: st) ∧
    (∀ e : E 2, ∀ st, run st e.render = reduce (.chk (sem2 e) :: st)) := by
  apply E.strata
  · intro t st
    simp only [E.render, run_cons, run_nil, shift, Tok.ent, sem2]
  · intro e ih st
    simp only [E.render, run_cons, run_append, shift, Tok.ent, reduce_lp, ih (.lp :: st) True.intro,
      run_nil, reduce_rp _ _ (sem0_nt e), sem2]
  · intro e ih st
    simp only [E.render, run_cons, shift, Tok.ent, reduce_kNot, ih, reduce_chk_not, sem2]
  · intro e ih
    refine ⟨fun st h => ?_, fun st X h => ?_⟩
    · rw [E.render, ih, reduce_chk_quiet _ _ h, sem1, ent1]
    · rw [E.render, ih, reduce_chk_or _ _ _ h, sem1, orCtx, List.foldl_nil]
  · intro a b iha ihb
    refine ⟨fun st h => ?_, fun st X h => ?_⟩
    · simp only [E.render, run_append, run_cons, shift, Tok.ent, iha.1 st h, reduce_kAnd, ihb,
        reduce_chk_and_ent1 _ (sem1_ne a), sem1]
    · obtain ⟨ts, h1, h2⟩ := orCtx_snoc X (sem1_ne a) (sem2 b)
      simp only [E.render, run_append, run_cons, shift, Tok.ent, iha.2 st X h, reduce_kAnd, ihb,
        h1, reduce_chk_mix, sem1, h2]
  · intro e ih st h
    rw [E.render, ih.1 st h, sem0]
  · intro a b iha ihb st h
    simp only [E.render, run_append, run_cons, shift, Tok.ent, iha st h, reduce_kOr,
      ihb.2 st _ (sem0_nt a), sem0]

theorem run1q : (e : E 1) → ∀ st, Quiet st → run st e.render = ent1 (sem1 e) :: st :=
  fun e => (run_render.2.1 e).1

theorem run1o : (e : E 1) → ∀ st X, IsNT X →
    run (.kOr :: X :: st) e.render = orCtx X (sem1 e) :: st :=
  fun e => (run_render.2.1 e).2

theorem run2 : (e : E 2) → ∀ st, run st e.render = reduce (.chk (sem2 e) :: st) :=
  run_render.2.2

theorem parseToks_render (e : E 0) : parseToks e.render = some (build e) := by
  rw [parseToks, run_render.1 e [] trivial]
  exact result_nt (sem0_nt e)

/-! `_parse_text_rule` case by case; a text whose tokens parse is not empty, since the empty
token list is rejected. -/

theorem parseText_nil : parseText [] = .tt := rfl

theorem parseText_of_parseToks {s : Str} {t : Tree} (h : parseToks (tokenize s) = some t) :
    parseText s = t := by
  cases s with
  | nil => cases h
  | cons c r => simp [parseText, h]

theorem parseText_of_none {s : Str} (hs : s ≠ []) (h : parseToks (tokenize s) = none) :
    parseText s = .ff := by
  cases s with
  | nil => exact absurd rfl hs
  | cons c r => simp [parseText, h]

theorem parseText_of_tokenize {s : Str} {e : E 0} (h : tokenize s = e.render) :
    parseText s = build e :=
  parseText_of_parseToks (h ▸ parseToks_render e)

end OsloPolicy
