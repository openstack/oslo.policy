import OsloPolicy.Model.Parser
/-
`reduce` seen from outside: its ten patterns are five reductions (`Red`).  Downstream,
equations about `reduce` are the five `reduce_*` rules and the normal forms below; invariants
of the parser go through `reduce_preserves`.
-/
namespace OsloPolicy

/-- The check a non-terminal entry carries (`ParseState.result` returns it); terminals carry
none, `.ff` is a filler. -/
def entTree : Ent → Tree
  | .chk t => t
  | .andE ts => .and ts
  | .orE ts => .or ts
  | _ => .ff

/-- The members of the or-expression that an `or` behind this entry starts or extends. -/
def toOrList : Ent → List Tree
  | .chk x => [x]
  | .andE ts => [.and ts]
  | .orE ts => ts
  | _ => []

/-- Likewise for an `and`. -/
def toAndList : Ent → List Tree
  | .chk x => [x]
  | .andE ts => ts
  | _ => []

/-- Non-terminals: `check`, `and_expr`, `or_expr`. -/
def IsNT : Ent → Prop
  | .chk _ | .andE _ | .orE _ => True
  | _ => False

/-- Entries an and-expression can be extended from. -/
def IsAT : Ent → Prop
  | .chk _ | .andE _ => True
  | _ => False

/-- No operator on top: a `check` pushed here is not reduced. -/
def Quiet : List Ent → Prop
  | .kAnd :: _ | .kOr :: _ | .kNot :: _ => False
  | _ => True

theorem IsAT.nt {X : Ent} (h : IsAT X) : IsNT X := by
  cases X <;> first | trivial | exact h.elim

theorem reduce_orE (ts r) : reduce (.orE ts :: r) = .orE ts :: r := by
  unfold reduce; rfl
theorem reduce_andE (ts r) : reduce (.andE ts :: r) = .andE ts :: r := by
  unfold reduce; rfl
theorem reduce_kOr (r) : reduce (.kOr :: r) = .kOr :: r := by
  unfold reduce; rfl
theorem reduce_kAnd (r) : reduce (.kAnd :: r) = .kAnd :: r := by
  unfold reduce; rfl
theorem reduce_kNot (r) : reduce (.kNot :: r) = .kNot :: r := by
  unfold reduce; rfl
theorem reduce_lp (r) : reduce (.lp :: r) = .lp :: r := by
  unfold reduce; rfl
theorem reduce_str (s r) : reduce (.str s :: r) = .str s :: r := by
  unfold reduce; rfl

theorem reduce_chk_quiet (t) (r) (h : Quiet r) : reduce (.chk t :: r) = .chk t :: r := by
  match r, h with
  | [], _ => unfold reduce; rfl
  | X :: r, h => cases X <;> first | exact h.elim | (unfold reduce; rfl)

theorem reduce_rp (X r) (h : IsNT X) :
    reduce (.rp :: X :: .lp :: r) = reduce (.chk (entTree X) :: r) := by
  cases X <;> first | exact h.elim | rw [reduce, entTree]

theorem reduce_chk_and (t X r) (h : IsAT X) :
    reduce (.chk t :: .kAnd :: X :: r) = .andE (toAndList X ++ [t]) :: r := by
  cases X <;> first | exact h.elim | (rw [reduce, reduce_andE]; rfl)

theorem reduce_chk_mix (t ts r) :
    reduce (.chk t :: .kAnd :: .orE ts :: r) = .orE (mixLast ts t) :: r := by
  rw [reduce, reduce_orE]

theorem reduce_chk_or (t X r) (h : IsNT X) :
    reduce (.chk t :: .kOr :: X :: r) = .orE (toOrList X ++ [t]) :: r := by
  cases X <;> first | exact h.elim | (rw [reduce, reduce_orE]; rfl)

theorem reduce_chk_not (t r) :
    reduce (.chk t :: .kNot :: r) = reduce (.chk (.not t) :: r) := by
  rw [reduce]

inductive Red : List Ent → List Ent → Prop
  | paren {X r} : IsNT X → Red (.rp :: X :: .lp :: r) (.chk (entTree X) :: r)
  | and {c X r} : IsAT X → Red (.chk c :: .kAnd :: X :: r) (.andE (toAndList X ++ [c]) :: r)
  | mix {c ts r} : Red (.chk c :: .kAnd :: .orE ts :: r) (.orE (mixLast ts c) :: r)
  | or {c X r} : IsNT X → Red (.chk c :: .kOr :: X :: r) (.orE (toOrList X ++ [c]) :: r)
  | not {t r} : Red (.chk t :: .kNot :: r) (.chk (.not t) :: r)

/-- Whatever the five reductions preserve, `reduce` preserves. -/
theorem reduce_preserves {P : List Ent → Prop} (hP : ∀ {s s'}, Red s s' → P s → P s')
    (st : List Ent) (h : P st) : P (reduce st) := by
  fun_induction reduce st with
  | case1 t r ih => exact ih (hP (.paren (X := .chk t) trivial) h)
  | case2 ts r ih => exact ih (hP (.paren (X := .andE ts) trivial) h)
  | case3 ts r ih => exact ih (hP (.paren (X := .orE ts) trivial) h)
  | case4 b a r ih => exact ih (hP (.and (X := .chk a) trivial) h)
  | case5 c ts r ih => exact ih (hP .mix h)
  | case6 c ts r ih => exact ih (hP (.and (X := .andE ts) trivial) h)
  | case7 b a r ih => exact ih (hP (.or (X := .chk a) trivial) h)
  | case8 b ts r ih => exact ih (hP (.or (X := .andE ts) trivial) h)
  | case9 c ts r ih => exact ih (hP (.or (X := .orE ts) trivial) h)
  | case10 t r ih => exact ih (hP .not h)
  | case11 => exact h

end OsloPolicy
