import OsloPolicy.Proofs.ParserDen
/-
The parser accepts only sentences of the documented grammar: every non-terminal stack
entry carries a grammar derivation of exactly the tokens it covers.
-/
namespace OsloPolicy

def Ent.Wit : Ent → List Tok → Prop
  | .lp, w => w = [.lp]
  | .rp, w => w = [.rp]
  | .kAnd, w => w = [.kAnd]
  | .kOr, w => w = [.kOr]
  | .kNot, w => w = [.kNot]
  | .str s, w => w = [.str s]
  | .chk t, w => ∃ e : E 2, sem2 e = t ∧ e.render = w
  | .andE ts, w => ∃ e : E 1, sem1 e = ts ∧ 2 ≤ ts.length ∧ e.render = w
  | .orE ts, w => ∃ (l : E 0) (r : E 1), orCtx (sem0 l) (sem1 r) = .orE ts ∧ (E.or l r).render = w

/-- The stack, bottom to top, derives the tokens read so far. -/
def SInv : List Ent → List Tok → Prop
  | [], w => w = []
  | X :: st, w => ∃ w0 w', SInv st w0 ∧ X.Wit w' ∧ w = w0 ++ w'

theorem ent1_two (ts : List Tree) (h : 2 ≤ ts.length) : ent1 ts = .andE ts := by
  match ts, h with
  | x :: y :: r, _ => rfl

/-- Any non-terminal entry is an or-level sentence … -/
theorem Ent.Wit.e0 {X : Ent} {w} (hX : IsNT X) (h : X.Wit w) :
    ∃ e : E 0, sem0 e = X ∧ e.render = w := by
  cases X <;> try exact hX.elim
  · obtain ⟨e, rfl, rfl⟩ := h
    exact ⟨.up0 (.up1 e), by simp only [sem0, sem1, ent1], rfl⟩
  · obtain ⟨e, rfl, hl, rfl⟩ := h
    exact ⟨.up0 e, by simp only [sem0, ent1_two _ hl], rfl⟩
  · obtain ⟨l, r, he, rfl⟩ := h
    exact ⟨.or l r, by simp only [sem0, he], rfl⟩

/-- … and one that an `and` can extend is an and-level sentence. -/
theorem Ent.Wit.e1 {X : Ent} {w} (hX : IsAT X) (h : X.Wit w) :
    ∃ e : E 1, sem1 e = toAndList X ∧ e.render = w := by
  cases X <;> try exact hX.elim
  · obtain ⟨e, rfl, rfl⟩ := h
    exact ⟨.up1 e, by simp only [sem1, toAndList], rfl⟩
  · obtain ⟨e, rfl, _, rfl⟩ := h
    exact ⟨e, rfl, rfl⟩

theorem SInv.red {s s' : List Ent} {w} (h : Red s s') (hs : SInv s w) : SInv s' w := by
  cases h with
  | paren hX =>
    obtain ⟨_, _, ⟨_, _, ⟨w0, _, h0, rfl, rfl⟩, hx, rfl⟩, rfl, rfl⟩ := hs
    obtain ⟨e, he, rfl⟩ := hx.e0 hX
    exact ⟨w0, _, h0, ⟨.paren e, by rw [sem2, he], rfl⟩, by simp [E.render]⟩
  | and hX =>
    obtain ⟨_, _, ⟨_, _, ⟨w0, _, h0, hx, rfl⟩, rfl, rfl⟩, ⟨ec, rfl, rfl⟩, rfl⟩ := hs
    obtain ⟨e, he, rfl⟩ := hx.e1 hX
    have := List.length_pos_iff.2 (sem1_ne e)
    exact ⟨w0, _, h0, ⟨.and e ec, by rw [sem1, he], by simp [← he]; omega, rfl⟩, by simp [E.render]⟩
  | mix =>
    obtain ⟨_, _, ⟨_, _, ⟨w0, _, h0, ⟨l, r, he, rfl⟩, rfl⟩, rfl, rfl⟩, ⟨ec, rfl, rfl⟩, rfl⟩ := hs
    obtain ⟨ts', h1, h2⟩ := orCtx_snoc (sem0 l) (sem1_ne r) (sem2 ec)
    cases he.symm.trans h1
    exact ⟨w0, _, h0, ⟨l, .and r ec, by rw [sem1, h2], rfl⟩, by simp [E.render]⟩
  | or hX =>
    obtain ⟨_, _, ⟨_, _, ⟨w0, _, h0, hx, rfl⟩, rfl, rfl⟩, ⟨ec, rfl, rfl⟩, rfl⟩ := hs
    obtain ⟨e, rfl, rfl⟩ := hx.e0 hX
    exact ⟨w0, _, h0, ⟨e, .up1 ec, by simp only [sem1, orCtx, List.foldl_nil], rfl⟩,
      by simp [E.render]⟩
  | not =>
    obtain ⟨_, _, ⟨w0, _, h0, rfl, rfl⟩, ⟨e, rfl, rfl⟩, rfl⟩ := hs
    exact ⟨w0, _, h0, ⟨.not e, by rw [sem2], rfl⟩, by simp [E.render]⟩

theorem shift_inv (st w) (t : Tok) (h : SInv st w) : SInv (shift st t) (w ++ [t]) := by
  refine reduce_preserves SInv.red _ ⟨w, [t], h, ?_, rfl⟩
  cases t <;> first | rfl | exact ⟨.leaf _, by rw [sem2], rfl⟩

theorem run_inv (toks : List Tok) : ∀ st w, SInv st w → SInv (run st toks) (w ++ toks) := by
  induction toks with
  | nil => intro st w h; simpa [run] using h
  | cons t toks ih =>
    intro st w h
    simpa [run] using ih _ _ (shift_inv st w t h)

theorem result_some {st : List Ent} {t : Tree} (h : result st = some t) :
    ∃ X, st = [X] ∧ IsNT X ∧ entTree X = t := by
  unfold result at h
  split at h <;> cases h <;> exact ⟨_, rfl, trivial, rfl⟩

theorem parseToks_sound (toks : List Tok) (t : Tree) (h : parseToks toks = some t) :
    ∃ e : E 0, toks = e.render ∧ t = build e := by
  obtain ⟨X, hst, hX, rfl⟩ := result_some h
  have hinv := run_inv toks [] [] rfl
  rw [hst] at hinv
  obtain ⟨_, _, rfl, hx, hw⟩ := hinv
  obtain ⟨e, rfl, rfl⟩ := hx.e0 hX
  exact ⟨e, by simpa using hw, rfl⟩

end OsloPolicy
