import OsloPolicy.Generated.PyTables
import OsloPolicy.Generated.RepoTables
import OsloPolicy.Model.Basic
import OsloPolicy.Model.Checker
import OsloPolicy.Model.Enforce
import OsloPolicy.Model.Eval
import OsloPolicy.Model.External
import OsloPolicy.Model.Lexer
import OsloPolicy.Model.Loader
import OsloPolicy.Model.Parser
import OsloPolicy.Model.SampleGen
import OsloPolicy.Model.Sched
import OsloPolicy.Model.Tables
import OsloPolicy.Model.Tools
import OsloPolicy.Model.Tree
import OsloPolicy.Model.Validate
import OsloPolicy.Proofs.Assoc
import OsloPolicy.Proofs.TreeInd
import OsloPolicy.Proofs.AsciiLower
import OsloPolicy.Proofs.Enforce
import OsloPolicy.Proofs.StrLit
import OsloPolicy.Proofs.EvalDen
import OsloPolicy.Proofs.EvalFuel
import OsloPolicy.Proofs.Layers
import OsloPolicy.Proofs.LexLayout
import OsloPolicy.Proofs.ListRuleImage
import OsloPolicy.Proofs.Loader
import OsloPolicy.Proofs.Reduce
import OsloPolicy.Proofs.ParserComplete
import OsloPolicy.Proofs.ParserDen
import OsloPolicy.Proofs.ParserSound
import OsloPolicy.Proofs.PrintLayout
import OsloPolicy.Proofs.PrintParse
import OsloPolicy.Proofs.RoundTrip
import OsloPolicy.Proofs.SampleGen
import OsloPolicy.Proofs.SchedSafe
import OsloPolicy.Proofs.Tools
import OsloPolicy.Proofs.Validate
import OsloPolicy.Properties.C01
import OsloPolicy.Properties.C02
import OsloPolicy.Properties.C03
import OsloPolicy.Properties.C03Reg
import OsloPolicy.Properties.C04
import OsloPolicy.Properties.C04Ascii
import OsloPolicy.Properties.C04Subst
import OsloPolicy.Properties.C05
import OsloPolicy.Properties.C06
import OsloPolicy.Properties.C07
import OsloPolicy.Properties.C08
import OsloPolicy.Properties.C09
import OsloPolicy.Properties.C10
import OsloPolicy.Properties.C10Flap
import OsloPolicy.Properties.C11
import OsloPolicy.Properties.C12
import OsloPolicy.Properties.C13
import OsloPolicy.Properties.C14
import OsloPolicy.Properties.C15
import OsloPolicy.Properties.C16
import OsloPolicy.Properties.C17
import OsloPolicy.Properties.C18
import OsloPolicy.Properties.C19
import OsloPolicy.Properties.C20
import OsloPolicy.Properties.C20Safe
import OsloPolicy.Properties.TieKinds
import OsloPolicy.Properties.TieLower
import OsloPolicy.Properties.TieOpts
import OsloPolicy.Properties.TieParser
import OsloPolicy.Spec.Grammar
import OsloPolicy.Spec.Layers
import OsloPolicy.Spec.Layout
import OsloPolicy.Spec.RefGraph
import OsloPolicy.Proofs.LoaderReg
import OsloPolicy.Proofs.SchedNoDirs
import OsloPolicy.Model.Literal
import OsloPolicy.Proofs.JsonRoundTrip
import OsloPolicy.Properties.TieApi
import OsloPolicy.Properties.C20Late
